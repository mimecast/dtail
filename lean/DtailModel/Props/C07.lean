/-
C07 — multi-source output is a whole-line interleaving with correct attribution.
-/
import DtailModel.Lemmas.Multi
import DtailModel.Lemmas.Wire
import DtailModel.Lemmas.GrepCount
import DtailModel.Lemmas.Fast
import DtailModel.Lemmas.GlobID
import DtailModel.Lemmas.GenGlobID
import DtailModel.Lemmas.GenPlain
namespace Dtail.C07

/-- **Whole-line interleaving with per-source order.** For every number of connections and
    every interleaving of transport chunks, the messages printed for connection `i`, in print
    order, are exactly what a single client fed with `i`'s byte stream alone would print:
    no message is torn, merged with another connection's bytes, lost or reordered. -/
theorem C07_interleave (sched : List (Nat × Bytes)) (i : Nat) :
    projConn i (multiRun sched) = clientFeed ⟨[], []⟩ (streamOf i sched) :=
  projConn_sched i sched multiInit

/-- **Attribution of line numbers (context filter).** Every line the grep/cat filter delivers
    carries as its count the true running number of that line in the file, also for lines
    flushed from the before-context ring (`totalLineCount() - i`). -/
theorem C07_count_is_line_number {α : Type} (B A M : Nat) (ls : List (Bool × α)) (c : Nat) (x : α)
    (h : (c, x) ∈ grunN B A M (ginit M) 0 ls) :
    1 ≤ c ∧ ∃ sel, ls[c - 1]? = some (sel, x) := by
  obtain ⟨h1, h2⟩ := mem_grunN M ls [] (ginit_inv B A M) (List.suffix_refl _) h
  rw [List.nil_append, List.getElem?_map, Option.map_eq_some_iff] at h2
  obtain ⟨⟨sel, _⟩, h2, rfl⟩ := h2
  exact ⟨h1, sel, h2⟩

/-- **Attribution of line numbers (plain filter).** -/
theorem C07_count_plain (ls : List (Bool × Bytes)) (c : Nat) (x : Bytes)
    (h : (c, x) ∈ ((ls.zipIdx 1).filter (·.1.1)).map (fun p => (p.2, p.1.2))) :
    1 ≤ c ∧ ls[c - 1]? = some (true, x) := by
  obtain ⟨⟨⟨sel, y⟩, k⟩, hp, heq⟩ := List.mem_map.1 h
  obtain ⟨hmem, hsel⟩ := List.mem_filter.1 hp
  cases heq
  obtain rfl : sel = true := by simpa using hsel
  exact List.mk_mem_zipIdx_iff_le_and_getElem?_sub.1 hmem

/-- a REMOTE record survives the wire: prefix and content arrive as one message -/
theorem C07_record_roundtrip (host : Bytes) (l : Line) (msgs : List Bytes)
    (hh1 : NL ∉ remotePrefix host l) (hh2 : DELIM ∉ remotePrefix host l)
    (hwf : LineWF l.content) (hd : DELIM ∉ l.content) :
    ∃ ms, clientFeed ⟨[], msgs⟩ (frameOf false host l) = ⟨[], msgs ++ ms⟩
      ∧ (ms = [remotePrefix host l ++ l.content, []] ∨ ms = [remotePrefix host l ++ l.content]) := by
  have : frameOf false host l = remotePrefix host l ++ l.content ++ [DELIM] := by
    simp [frameOf]
  rw [this]
  exact clientFeed_frame _ _ msgs hh1 hh2 hwf hd

/-- the driver's linear-time reader and client are the model's (the differential run on long
    lines uses them) -/
theorem C07_driver_fast_versions (m : Nat) (bs : Bytes) :
    readLinesF m bs = readLines m bs ∧ clientMsgsF bs = (clientFeed ⟨[], []⟩ bs).msgs :=
  ⟨readLinesF_eq m bs, clientMsgsF_eq bs⟩

/-- the driver's linear-time multi-connection client (used by the scripted chunk schedules of
    the differential run, where messages exceed 64 KiB) prints exactly the model's messages, in
    the model's order, for every schedule over `n` connections -/
theorem C07_driver_fast_multi (n : Nat) (sched : List (Nat × Bytes)) (h : ∀ c ∈ sched, c.1 < n) :
    multiRunF n sched = (multiRun sched).out := multiRunF_eq n sched h

/-- hence what the driver prints for connection `i` is what a single client fed with `i`'s
    stream alone prints (the specification value the differential run compares with) -/
theorem C07_driver_per_connection (n : Nat) (sched : List (Nat × Bytes)) (h : ∀ c ∈ sched, c.1 < n) (i : Nat) :
    ((multiRunF n sched).filter (·.1 = i)).map (·.2) = clientMsgsF (streamOf i sched) := by
  rw [multiRunF_eq n sched h, clientMsgsF_eq]
  have := C07_interleave sched i
  simpa [projConn] using congrArg CS.msgs this

/-- `makeGlobID` never indexes out of range when the path has at least as many components as the
    glob (what `filepath.Glob` returns for the cleaned pattern has exactly as many), and the identifier
    is the path's components at the glob's wildcard positions, or the base name -/
theorem C07_globid_value (path glob : Bytes)
    (h : (splitOnByte SLASH glob).length ≤ (splitOnByte SLASH path).length) :
    makeGlobID path glob =
      .ok (match starSel (splitOnByte SLASH path) (splitOnByte SLASH glob) with
           | [] => (splitOnByte SLASH path).getLast?.getD []
           | ids => joinByte SLASH ids) :=
  makeGlobID_ok path glob h

/-- **Attribution: different files of one glob carry different identifiers.**  Two paths that match the
    same cleaned glob (they agree with it on every component without a glob meta character) and get the
    same identifier are the same path — so the (host, identifier) label of an output line determines the
    file it came from.  (After `fix:` 6338cfb; with only '*' counted the statement is false, see below.) -/
theorem C07_globid_distinct (glob p q : Bytes)
    (hp : MatchesLiterals (splitOnByte SLASH p) (splitOnByte SLASH glob))
    (hq : MatchesLiterals (splitOnByte SLASH q) (splitOnByte SLASH glob))
    (hwild : ∃ g ∈ splitOnByte SLASH glob, isWild g = true)
    (h : makeGlobID p glob = makeGlobID q glob) : p = q :=
  makeGlobID_injective glob p q hp hq hwild h

/-- the repaired defect as a statement: counting only '*' as a wildcard, the three files of
    `logs/web?/app.log` are all labelled `app.log` -/
theorem C07_globid_old_defect :
    let old (path glob : Bytes) : Bytes :=
      let sel := ((splitOnByte SLASH path).zip (splitOnByte SLASH glob)).filterMap fun (p, g) => if isWildOld g then some p else none
      if sel = [] then (splitOnByte SLASH path).getLast?.getD [] else joinByte SLASH sel
    old (b!"logs/web1/app.log") (b!"logs/web?/app.log") = old (b!"logs/web2/app.log") (b!"logs/web?/app.log") := by
  decide +kernel

/-- non-vacuity: two files of a glob with a '?' component meet the hypotheses and get different identifiers -/
example : makeGlobID (b!"logs/web1/app.log") (b!"logs/web?/app.log") = .ok (b!"web1") ∧
    makeGlobID (b!"logs/web2/app.log") (b!"logs/web?/app.log") = .ok (b!"web2") ∧
    MatchesLiterals (splitOnByte SLASH (b!"logs/web1/app.log")) (splitOnByte SLASH (b!"logs/web?/app.log")) := by
  -- the identifiers by evaluation; `logs` and `app.log` are literal components, `web?` is not
  exact ⟨rfl, rfl, fun _ => rfl, fun h => absurd h (by decide), fun _ => rfl, trivial⟩

/-- **Tie G: `makeGlobID` as translated from internal/server/handlers/readcommand.go on this run computes the
    model's identifier** for every path with at least as many components as the glob — so `C07_globid_value` and
    `C07_globid_distinct` speak about the code as it is now. -/
theorem C07_generated_globid_refines_model (ext : Go.Ext) (r : Gen.Handlers.readCommand) (path glob : Bytes)
    (h : (splitOnByte SLASH glob).length ≤ (splitOnByte SLASH path).length) :
    ∃ id, makeGlobID path glob = .ok id ∧ Gen.Handlers.readCommand.makeGlobID ext r path glob = (r, id) :=
  GenGlobID.makeGlobID_refines ext r path glob h

/-- **Tie G: the running numbers of the translated plain filter.**  `filterWithoutLContext`, `transmittable` and the line
    counter of internal/io/fs as translated on this run: every line a cat / grep reader sends carries as its number its
    position in the file (from 1), and is the selected line at that position — the `count` field a client prints beside the
    host name and the file identifier. -/
theorem C07_generated_running_numbers (ext : Go.Ext) (re : Go.GoRegex) (raws : List Bytes) (f : Gen.Fs.readFile)
    (hc : f.canSkipLines = false) (h0 : f.stats.lineCount = 0) (hl : f.lines = []) (l : Go.GoLine)
    (hmem : l ∈ (Gen.Fs.readFile.filterWithoutLContext ext f () raws () re).lines) :
    ∃ c : Nat, (GenPlain.numOf l).1 = (c : Int) ∧ 1 ≤ c ∧
      (GenPlain.judged ext re raws)[c - 1]? = some (true, (GenPlain.numOf l).2) := by
  have hm := List.mem_map_of_mem (f := GenPlain.numOf) hmem
  rw [GenPlain.plain_fresh ext re raws f hc h0 hl] at hm
  obtain ⟨p, hp, heq⟩ := List.mem_map.1 hm
  have hcnt := C07_count_plain (GenPlain.judged ext re raws) p.2 p.1.2 (List.mem_map.2 ⟨p, hp, rfl⟩)
  rw [← heq]
  exact ⟨p.2, rfl, hcnt⟩

end Dtail.C07
