/-
C04 — following a file delivers every appended line once, in order.
-/
import DtailModel.Lemmas.Reader
import DtailModel.Lemmas.Tail
import DtailModel.Lemmas.GenStats
namespace Dtail.C04

/-- **However the writer splits its writes** (and however the reader's polls fall), reading the
    appended bytes chunk by chunk leaves the reader in the same state as reading them at once:
    the same lines emitted, the same partial line held. -/
theorem C04_chunking (m : Nat) (chunks : List Bytes) :
    tailRead m chunks = readFrom m ⟨[], []⟩ chunks.flatten := tailRead_from m chunks _

/-- What is delivered and what is held: the emitted lines followed by the held partial line
    are the appended bytes (with the MaxLineLength splits); every emitted line is complete
    (newline terminated) and the held part contains no newline — so every complete appended
    line is emitted exactly once, unmodified, in order, and nothing else. -/
theorem C04_complete_lines (m : Nat) (chunks : List Bytes) :
    let s := tailRead m chunks
    s.out.flatten ++ s.msg = insertNL m 0 chunks.flatten
    ∧ (∀ l ∈ s.out, l.getLast? = some NL) ∧ NL ∉ s.msg := by
  rw [C04_chunking]
  obtain ⟨hmsg, hout⟩ := readFrom_inv m chunks.flatten _ readerInv_init
  refine ⟨by simpa using readFrom_flatten m chunks.flatten ⟨[], []⟩, fun l hl => ?_, hmsg⟩
  obtain ⟨body, rfl, -⟩ := hout l hl
  exact List.getLast?_concat

/-- nothing that was in the file before the follow began is delivered: the reader starts
    from an empty state at the end of the file, so its output depends on the appended bytes only -/
theorem C04_only_appended (m : Nat) (chunks : List Bytes) :
    (tailRead m chunks).out = (readFrom m ⟨[], []⟩ chunks.flatten).out := by rw [C04_chunking]

/-- **The ring invariant holds after every sequence of lines**: the counters count the flags,
    transmitted ≤ matched, hence the percentage never exceeds 100. -/
theorem C04_stats_inv (canSkip : Bool) (ls : List (Bool × Bool)) :
    StatsInv (runLines canSkip statsInit ls) := runLines_inv canSkip ls _ statsInit_inv

theorem percentOf_le (m t : Nat) (h : t ≤ m) : percentOf m t ≤ 100 := by
  by_cases hc : m = 0 ∨ m = t
  · rw [percentOf, if_pos hc]; exact Nat.le_refl _
  · exact Nat.le_trans (percentOf_le_div m t hc) (Nat.div_le_of_le_mul (Nat.mul_comm m 100 ▸ Nat.mul_le_mul_left 100 h))

/-- a line is dropped exactly when it matches, the reader may skip (tail mode) and the
    delivery queue is full -/
theorem C04_drop_iff_full (canSkip : Bool) (s : Stats) (mt full : Bool) (h : StatsInv s) :
    (processLine canSkip s mt full).2.1 = .dropped ↔ mt = true ∧ canSkip = true ∧ full = true := by
  rw [processLine_fate]
  cases mt <;> cases canSkip <;> cases full <;> simp

/-- cat and grep readers (canSkipLines = false) never drop -/
theorem C04_cat_never_drops (s : Stats) (mt full : Bool) (h : StatsInv s) :
    (processLine Facts.catCanSkipLines s mt full).2.1 ≠ .dropped := by
  intro hd
  have := (C04_drop_iff_full Facts.catCanSkipLines s mt full h).1 hd
  exact absurd this.2.1 (by decide)

/-- while a slot is matched but not transmitted the reported percentage is below 100 -/
theorem C04_gap_below_100 (s : Stats) (h : StatsInv s) (p : Nat)
    (hgap : s.matched.getD p false = true ∧ s.transmitted.getD p false = false) :
    percentOf s.matchCount s.transmitCount < 100 := by
  obtain ⟨hml, htl, hmc, htc, himp, _⟩ := h
  rw [hmc, htc]
  exact percentOf_lt _ _ (countTrue_lt_of_gap s.transmitted s.matched (by rw [htl, hml]) himp p hgap)

/-- **After a drop the next delivered line reports less than 100** — provided fewer than
    `ringSize` lines of the file were processed in between (after that the dropped line's slot
    is recycled; see the recorded finding).  Stated for every run of `k < ringSize − 1` further
    lines, whatever they are, followed by a delivered line. -/
theorem C04_perc_after_drop_partial (s : Stats) (h : StatsInv s) (mt full : Bool)
    (hdrop : (processLine true s mt full).2.1 = .dropped)
    (between : List (Bool × Bool)) (hk : between.length + 1 < ringSize) (mt' full' : Bool)
    (hdel : (processLine true (runLines true (processLine true s mt full).1 between) mt' full').2.1 = .delivered) :
    (processLine true (runLines true (processLine true s mt full).1 between) mt' full').2.2.2 < 100 := by
  -- the dropped line leaves a gap in its slot: matched, not transmitted
  obtain ⟨rfl, -, rfl⟩ := (C04_drop_iff_full true s mt full h).1 hdrop
  have hinv := processLine_inv true s true true h
  obtain ⟨hm, ht⟩ := processLine_slot true s true true h ((s.pos + 1) % ringSize)
  rw [if_pos rfl] at hm ht
  -- the lines in between and the delivered line, fewer than the ring has slots, all land elsewhere: the slot is a whole turn ahead
  have hrun : (processLine true (runLines true (processLine true s true true).1 between) mt' full').1
      = runLines true (processLine true s true true).1 (between ++ [(mt', full')]) := by rw [runLines_append]; rfl
  obtain ⟨hm', ht'⟩ := runLines_slot true ((s.pos + 1) % ringSize) (between ++ [(mt', full')]) _ ringSize hinv
    (by simpa using hk) (Nat.le_refl _) (by rw [processLine_pos true s true true h, Nat.add_mod_right, Nat.mod_mod])
  rw [(processLine_delivered_perc true _ mt' full' hdel).1, hrun]
  exact C04_gap_below_100 _ (runLines_inv true _ _ hinv) _ ⟨hm'.trans hm, ht'.trans ht⟩

/-- **Tie G: the statistics code translated from the working tree refines the model.**
    `Generated/Code.lean` holds `stats.updatePosition`, the four `updateLine…` methods and
    `readFile.transmittable` as /verif/extract translated them, statement by statement, from
    internal/io/fs/stats.go and readfile.go on this run.  For every translated ring whose integers
    are non-negative and whose counters count its flags, for every regex answer and queue state:
    `updatePosition` is the model's `updatePosition`, and `transmittable` is the rest of the model's
    `processLine` — same ring, same fate (delivered / not), and a delivered line carries the model's
    line count and percentage.  The theorems above therefore speak about the code as it is now. -/
theorem C04_generated_code_refines_model (ext : Go.Ext) (g : Gen.Fs.readFile) (raw : Go.GoString) (len cap : Int)
    (re : Go.GoRegex) (hn : GenStats.NonNeg g.stats) (hc : GenStats.Counted g.stats)
    (hperc : ∀ m t : Int, 0 ≤ m → 0 ≤ t → ext.percentOf m t = (percentOf m.toNat t.toNat : Int)) :
    GenStats.abs (Gen.Fs.stats.updatePosition ext g.stats) = updatePosition (GenStats.abs g.stats) ∧
    GenStats.NonNeg (Gen.Fs.stats.updatePosition ext g.stats) ∧
    (let r := Gen.Fs.readFile.transmittable ext g raw len cap re
     let a := GenStats.afterPos g.canSkipLines (GenStats.abs g.stats) (ext.reMatch re raw) (decide (len ≥ cap))
     GenStats.abs r.1.stats = a.1 ∧ (r.2.2 = true ↔ a.2.1 = .delivered) ∧
     (r.2.2 = true → r.2.1 = Go.GoLine.new raw a.2.2.1 a.2.2.2 g.globID) ∧ (r.2.2 = false → r.2.1 = .null)) ∧
    (∀ s m q, processLine g.canSkipLines s m q = GenStats.afterPos g.canSkipLines (updatePosition s) m q) := by
  have h1 := GenStats.updatePosition_refines ext g.stats hn
  have h2 := GenStats.transmittable_refines ext g raw len cap re hn hc hperc
  exact ⟨h1.1, h1.2, ⟨h2.1, h2.2.2.2.2.1, h2.2.2.2.2.2.1, h2.2.2.2.2.2.2⟩, fun s m q => GenStats.processLine_eq_afterPos _ s m q⟩

/-- non-vacuity: the zero value of the translated ring is the model's initial ring and meets the hypotheses -/
example : GenStats.abs ({} : Gen.Fs.stats) = statsInit ∧ GenStats.NonNeg ({} : Gen.Fs.stats) ∧ GenStats.Counted ({} : Gen.Fs.stats) :=
  ⟨GenStats.zero_abs.1, GenStats.zero_abs.2, by unfold GenStats.Counted; decide +kernel⟩

end Dtail.C04
