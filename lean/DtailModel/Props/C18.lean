/-
C18 — server discovery yields each wanted server exactly once.
-/
import DtailModel.Lemmas.Discovery
import DtailModel.Lemmas.GenDiscovery
namespace Dtail.C18
variable {α : Type} [DecidableEq α]

/-- For every list of entries, every filter and every sequence of random indices that
    `Intn(len)` can deliver, the contacted servers are a permutation of the distinct wanted
    entries: each once, none invented, none lost. -/
theorem C18_full_holds (entries : List α) (filter : Option (α → Bool)) (rs : List Nat)
    (h : validIdx (dedup [] (wanted entries filter)).length rs = true) :
    ∃ out, serverList entries filter rs = some out
      ∧ out.Perm (dedup [] (wanted entries filter))
      ∧ out.Nodup
      ∧ ∀ x, x ∈ out ↔ x ∈ wanted entries filter := by
  obtain ⟨out, ho, hp⟩ := shuffle_perm (dedup [] (wanted entries filter)) rs h
  refine ⟨out, ?_, hp, ?_, ?_⟩
  · exact ho
  · exact hp.nodup_iff.2 (nodup_dedup _ _)
  · intro x; rw [hp.mem_iff, mem_dedup]; simp

omit [DecidableEq α] in
/-- the shuffle alone never loses, invents or repeats an element -/
theorem C18_shuffle_perm (l : List α) (rs : List Nat) (h : validIdx l.length rs = true) :
    ∃ out, shuffle l rs = some out ∧ out.Perm l := shuffle_perm l rs h

/-- dedup keeps exactly the distinct entries, in order of first occurrence -/
theorem C18_dedup (l : List α) :
    (dedup [] l).Nodup ∧ (∀ x, x ∈ dedup [] l ↔ x ∈ l) ∧ (dedup [] l).Sublist l :=
  ⟨nodup_dedup _ _, fun x => by rw [mem_dedup]; simp, dedup_sublist _ _⟩

/-- non-vacuity: a list with duplicates and valid indices -/
example : validIdx (dedup [] [3, 1, 3, 2, 1]).length [2, 0, 0] = true ∧
    serverList [3, 1, 3, 2, 1] (some (fun x => x != 1)) [1, 0] = some [2, 3] := by decide +kernel

open Dtail.Go Dtail.Gen.Discovery in
/-- `filterList`, `dedupList` and `shuffleList` of the working tree (internal/discovery/discovery.go, translated on this
    run) are the model's filter, `dedup` and `shuffle` (the random source is the list of numbers its `Intn` calls return) -/
theorem C18_generated_steps_refine_model (ext : Ext) (d : Discovery) (servers : List Bytes) :
    Discovery.filterList ext d servers = (d, servers.filter (ext.reMatchRaw d.regex)) ∧
    Discovery.dedupList ext d servers = (d, dedup [] servers) ∧
    (∀ (rs : List Nat) (out : List Bytes), ext.randNew = ⟨rs.map fun (n : Nat) => (n : Int)⟩ →
      validIdx servers.length rs = true → shuffle servers rs = some out → Discovery.shuffleList ext d servers = (d, out)) :=
  ⟨GenDiscovery.filterList_refines ext d servers, GenDiscovery.dedupList_refines ext d servers,
   fun rs out hr hv hs => GenDiscovery.shuffleList_refines ext d servers rs out hr hv hs⟩

open Dtail.Go Dtail.Gen.Discovery in
/-- **`Discovery.ServerList()` as translated from the working tree contacts each wanted server exactly once**:
    for every list the source module delivers, every filter expression, and every sequence of numbers
    `Intn(len)` can return while the list shrinks, the result is a permutation of the distinct entries that
    pass the filter — each once, none invented, none lost. -/
theorem C18_generated_server_list (ext : Ext) (d : Discovery) (rs : List Nat)
    (hr : ext.randNew = ⟨rs.map fun (n : Nat) => (n : Int)⟩) (ho : d.order = Shuffle)
    (hv : validIdx (dedup [] (wanted (ext.strList (b!"serverListFromModule")) (GenDiscovery.filterOf ext d))).length rs = true) :
    ∃ out, Discovery.ServerList ext d = (d, out)
      ∧ out.Perm (dedup [] (wanted (ext.strList (b!"serverListFromModule")) (GenDiscovery.filterOf ext d)))
      ∧ out.Nodup
      ∧ ∀ x, x ∈ out ↔ x ∈ wanted (ext.strList (b!"serverListFromModule")) (GenDiscovery.filterOf ext d) := by
  obtain ⟨out, hs, hp, hn, hm⟩ := C18_full_holds _ _ rs hv
  exact ⟨out, GenDiscovery.ServerList_refines ext d rs out hr ho hv hs, hp, hn, hm⟩

open Dtail.Go Dtail.Gen.Discovery in
/-- the hypotheses are satisfiable: three entries with a duplicate, a filter, valid draws -/
example :
    let ext : Ext := { parseFloat := fun _ => (0, none), randNew := ⟨[1, 0]⟩,
                       strList := fun _ => [b!"a", b!"b", b!"a", b!"c"],
                       reMatchRaw := fun _ s => s != b!"b" }
    Discovery.ServerList ext { regex := ⟨b!"x", true⟩ } = ({ regex := ⟨b!"x", true⟩ }, [b!"c", b!"a"]) := by decide +kernel

end Dtail.C18
