/-
C10 — no client-supplied bytes can crash the server.

The modelled layer is everything between the bytes a client writes and the start of a reader
or an aggregator: server `Write` (split at ';'), handleCommand, handleProtocolVersion,
handleBase64, DeserializeOptions, handleUserCommand, readCommand.Start, regex.Deserialize,
newMapCommand / NewAggregate / NewQuery with the whole query front end (C11's model), and the
allocation of the before-context ring.  Every Go indexing and slicing operation of that code
is explicit in the model (`goIndex`, `goSlice`, `goSliceFrom` panic exactly where the Go
runtime would).
-/
import DtailModel.Lemmas.CommandNoPanic
import DtailModel.Lemmas.GenDecode
import DtailModel.Lemmas.GenGrepPanic
import DtailModel.Lemmas.GenQuery
import DtailModel.Model.Base64
namespace Dtail.C10

/-- **Decoding and dispatching a command never panics** — for every byte string and every
    behaviour of the external decoders (base64, regexp.Compile, strconv.ParseFloat): all
    argument-count guards cover the indexing they protect. -/
theorem C10_handle_never_panics (env : Env) (cmd : Bytes) : (handleCommand env cmd).isPanic = false :=
  (handleCommand_noPanic env cmd).isPanic

/-- the same for every command of every byte stream a client can write (server `Write` cuts the
    stream at ';') -/
theorem C10_stream_never_panics (env : Env) (stream : Bytes) (c : Bytes) (_ : c ∈ serverCommands stream) :
    (handleCommand env c).isPanic = false := (handleCommand_noPanic env c).isPanic

/-- the query front end alone (what `NewAggregate` hands to `NewQuery`) -/
theorem C10_query_never_panics (fl : FloatOracle) (q : Bytes) : (newQuery fl q).isPanic = false :=
  (newQuery_noPanic fl q).isPanic

/-- what a command does to the process up to the start of its reader: decode, dispatch, and
    for a read command allocate the before-context ring -/
def handleAndStart (env : Env) (cmd : Bytes) : Outcome Unit :=
  match handleCommand env cmd with
  | .ok ⟨.read _ ltx _ _, _⟩ => readerStart ltx
  | .ok _ => .ok ()
  | .err e => .err e
  | .panic p => .panic p

/-- the recorded finding's signature: a read command whose before-context exceeds what
    `make(chan, n)` accepts -/
def sigHugeBefore (env : Env) (cmd : Bytes) : Bool :=
  match handleCommand env cmd with
  | .ok ⟨.read _ ltx _ _, _⟩ => decide (ltx.before > makechanLimit)
  | _ => false

/-- the full property for the modelled layer -/
def C10_full : Prop := ∀ (env : Env) (cmd : Bytes), (handleAndStart env cmd).isPanic = false

/-- **Outside the recorded finding nothing a client sends panics the server**, and inside it
    the panic is exactly the `makechan` one: the modelled layer panics iff the command is a
    read command with a huge `before` option. -/
theorem C10_partial (env : Env) (cmd : Bytes) : (handleAndStart env cmd).isPanic = sigHugeBefore env cmd := by
  unfold handleAndStart sigHugeBefore
  have h := handleCommand_noPanic env cmd
  cases hr : handleCommand env cmd with
  | panic p => rw [hr] at h; cases h
  | err e => rfl
  | ok hd =>
    obtain ⟨a, o⟩ := hd
    cases a with
    | read m ltx g re =>
      simp only [readerStart]
      by_cases hb : ltx.before > makechanLimit <;> simp [hb, Outcome.isPanic]
    | errorMessage w => rfl
    | map q p => rfl
    | ack c => rfl

/-- The one recorded finding: the before-context ring is allocated with the client's number.
    (`cat:before=4611686018427387904 /f regex:noop `, base64-encoded, with the real base64
    decoder.) -/
theorem C10_full_false : ¬ C10_full := by
  intro h
  have := h ⟨b64decode, fun _ => true, fun _ => none, b!"default"⟩
    (b!"protocol 4.1 base64 Y2F0OmJlZm9yZT00NjExNjg2MDE4NDI3Mzg3OTA0IC9mIHJlZ2V4Om5vb3Ag")
  revert this
  decide +kernel

/-- non-vacuity of `C10_partial` on the non-panicking side: an ordinary grep command is
    decoded, dispatched and started -/
example : handleAndStart ⟨b64decode, fun _ => true, fun _ => none, b!"default"⟩
    (b!"protocol 4.1 base64 Z3JlcDpiZWZvcmU9MiAvZiByZWdleDpkZWZhdWx0IGE=") = .ok () := by decide +kernel

open Dtail.Go Dtail.Gen.MaprQuery in
/-- **no query text crashes the server in the parser**: the `NewQuery` of the working tree (translated with every index
    and slice expression guarded) returns a query or an error for every byte string a client can put behind `map` -/
theorem C10_generated_query_parser_never_panics (ext : Ext) (q : Bytes) (hf : q.length + 1 < ext.fuel) :
    ∃ r, Gen.MaprQuery.NewQuery ext q = Outcome.ok r :=
  GenQuery.NewQuery_ok_text ext q hf

open Dtail.Go Dtail.Gen.MaprQuery in
/-- a query text has at most its length plus one tokens (`tokenize` as translated: split at '"', commas to blanks,
    `strings.Fields`) — which is why fuel beyond the length of the text is fuel beyond the number of tokens -/
theorem C10_generated_token_count (ext : Ext) (q : Bytes) : (Gen.MaprQuery.tokenize ext q).length ≤ q.length + 1 :=
  GenQuery.tokenize_length ext q

/-- **No command string crashes the decoder of the working tree.**  `baseHandler.handleCommand` (with
    `handleProtocolVersion`, `handleBase64`) of internal/server/handlers and `config.DeserializeOptions` / `setOption`
    are translated on every run with every index and slice expression guarded; the effects of `handleCommand` outside
    the translated state (sending a message, starting the command) are dropped.  For every byte string between two
    ';' of the client's stream, every `base64` and every `strconv.Atoi`, none of the guards fails. -/
theorem C10_generated_command_decoder_never_panics (ext : Go.Ext) (h : Gen.Decode.baseHandler) (cmd : Bytes) :
    ∃ r, Gen.Decode.baseHandler.handleCommand ext h cmd = Outcome.ok r :=
  GenDecode.handleCommand_ok ext h cmd

/-- **No client bytes crash the server's `Write`.**  `baseHandler.Write` of internal/server/handlers — the entry point of
    everything a client sends — translated on this run: for every handler state (whatever is left in the write buffer) and
    every chunk of bytes, the function returns: it has taken all bytes, cut the stream at every ';' and passed each command
    through the translated `handleCommand`, and no guard failed anywhere below it. -/
theorem C10_generated_server_write_never_panics (ext : Go.Ext) (h : Gen.Decode.baseHandler) (p : Bytes) :
    ∃ h', Gen.Decode.baseHandler.Write ext h p = Outcome.ok (h', (p.length : Int), none) :=
  GenDecode.Write_ok ext h p

/-- **The recorded finding on the translated code.**  The grep-context filter of internal/io/fs/readfilelcontext.go as
    translated on this run (`make(chan *bytes.Buffer, ls.before)` guarded by the runtime's size limit): a `before` context
    beyond that limit makes the filter panic before it reads a single line — `C10-huge-before` is a property of the code as it
    stands in the working tree, not only of the hand-written `readerStart`. -/
theorem C10_generated_huge_before_panics (ext : Go.Ext) (ltx : Go.GoLContext) (hB : ltx.BeforeContext > makechanLimit)
    (f : Gen.Grep.readFile) (raws : List Bytes) (re : Go.GoRegex) :
    ∃ m, Gen.Grep.readFile.filterWithLContext ext f () ltx raws () re = Outcome.panic m :=
  ⟨_, GenGrep.filter_huge_before_panics ext ltx hB f raws re⟩

/-- the parts: the option decoder on any option list, the protocol check on any argument list, the envelope decoder
    whenever the count it is handed is the number of arguments (which is what the protocol check hands it) -/
theorem C10_generated_decoder_parts_never_panic (ext : Go.Ext) (h : Gen.Decode.baseHandler) (args : List Bytes) :
    GenQuery.IsOk (Gen.Config.DeserializeOptions ext args) ∧
    GenDecode.VersionOk (Gen.Decode.baseHandler.handleProtocolVersion ext h args) ∧
    GenDecode.Base64Ok (Gen.Decode.baseHandler.handleBase64 ext h args (args.length : Int)) :=
  ⟨GenDecode.DeserializeOptions_ok ext args, GenDecode.handleProtocolVersion_ok ext h args,
   GenDecode.handleBase64_ok ext h args _ rfl⟩

/-- the envelope decoder does rely on its caller: handed a count of 2 with fewer arguments it would index out of range -/
example : Gen.Decode.baseHandler.handleBase64 { parseFloat := fun _ => (0, none) } {} [] 2 = Outcome.panic "index out of range" := by decide +kernel

/-- **the command decoder of the working tree decodes what the model decodes**: started on a handler that has recorded
    nothing, the translated `handleCommand` invokes the command callback exactly once with the model's command name,
    argument count, arguments and line context and hands `handleOptions` a map that answers like the model's option
    list — or, where the model reports an error, starts nothing (`GenDecode.CmdMatches`).  The theorems of C12 about the
    model's decoder (`C12_roundtrip`: what the client encodes the server decodes) thereby speak about the server code as
    it is now. -/
theorem C10_generated_command_decoder_refines_model (ext : Go.Ext) (env : Env) (he : GenOptions.ExtIs ext env) (cmd : Bytes) :
    GenDecode.CmdMatches (decodeCommand env cmd) (Gen.Decode.baseHandler.handleCommand ext {} cmd) :=
  GenDecode.handleCommand_refines ext env he cmd

end Dtail.C10
