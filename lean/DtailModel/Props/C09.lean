/-
C09 — sessions are granted only to authorised keys and the fixed service users.
-/
import DtailModel.Lemmas.Auth
import DtailModel.Lemmas.GenAuth
import DtailModel.Lemmas.GenKeys
namespace Dtail.C09

theorem mem_collectKeys (keyOf : Bytes → Option Key) (fuel : Nat) (lines : List Bytes) (k : Key)
    (hf : lines.length < fuel) :
    k ∈ collectKeys keyOf fuel lines ↔ ∃ l ∈ lines, keyOf l = some k := by
  rw [collectKeys_eq_filterMap keyOf fuel lines hf, List.mem_filterMap]

/-- (after the fix) For every authorized-keys file — key lines, comments, blank lines,
    options, garbage in any order — a key is accepted exactly when some line of the file
    carries it. -/
theorem C09_keys_full_holds (keyOf : Bytes → Option Key) (lines : List Bytes) (offered : Key) :
    verifyAuthorizedKeys keyOf lines offered = true ↔ ∃ l ∈ lines, keyOf l = some offered := by
  unfold verifyAuthorizedKeys
  rw [List.contains_iff_mem]
  exact mem_collectKeys keyOf _ lines offered (Nat.lt_succ_self _)

/-- the three service user names are distinct, and no ordinary user gets the health handler -/
theorem C09_service_users_distinct :
    Facts.healthUserBytes ≠ Facts.scheduleUserBytes ∧ Facts.healthUserBytes ≠ Facts.continuousUserBytes
    ∧ Facts.scheduleUserBytes ≠ Facts.continuousUserBytes := by decide +kernel

/-- Password logins: granted exactly in the three documented cases. -/
theorem C09_password_decision (lookup : Bytes → List Bytes) (schedule continuous : List Job)
    (user pw ip : Bytes) :
    passwordCallback lookup schedule continuous user pw ip = true ↔
      (user = Facts.healthUserBytes ∧ pw = Facts.healthUserBytes)
      ∨ (user = Facts.scheduleUserBytes ∧ ∃ j ∈ schedule, pw = j.name ∧ ∃ a ∈ j.allowFrom, ip ∈ lookup a)
      ∨ (user = Facts.continuousUserBytes ∧ ∃ j ∈ continuous, pw = j.name ∧ ∃ a ∈ j.allowFrom, ip ∈ lookup a) := by
  obtain ⟨hne1, hne2, hne3⟩ := C09_service_users_distinct
  have hb (js : List Job) : js.any (backgroundCanSSH lookup pw ip) = true ↔
      ∃ j ∈ js, pw = j.name ∧ ∃ a ∈ j.allowFrom, ip ∈ lookup a := by
    simp only [List.any_eq_true, backgroundCanSSH_iff]
  unfold passwordCallback
  -- the three names are distinct: for each of them one test succeeds and one disjunct speaks of that user
  by_cases h1 : user = Facts.healthUserBytes
  · subst h1
    rw [if_pos rfl, beq_iff_eq]
    simp only [true_and, hne1, hne2, false_and, or_false]
  rw [if_neg h1]
  by_cases h2 : user = Facts.scheduleUserBytes
  · subst h2
    rw [if_pos rfl, hb]
    simp only [h1, hne3, true_and, false_and, false_or, or_false]
  rw [if_neg h2]
  by_cases h3 : user = Facts.continuousUserBytes
  · subst h3
    rw [if_pos rfl, hb]
    simp only [h1, h2, true_and, false_and, false_or]
  · rw [if_neg h3]
    simp only [h1, h2, h3, false_and, or_self, Bool.false_eq_true]

/-- The health user can run nothing but the health command: its session gets the health
    handler, and every command of that handler yields OK, ack handling or an error. -/
theorem C09_health_only (name : Bytes) :
    handlerFor Facts.healthUserBytes = .health ∧
    (healthCommand name = .ok ↔ name = b!"health") := by
  refine ⟨by decide, ?_⟩
  unfold healthCommand
  by_cases h : name = b!"health"
  · simp [h]
  · by_cases h2 : name = b!".ack" <;> simp [h, h2]

/-- **Tie G: the public-key check as translated from the working tree accepts exactly the listed keys.**
    `verifyAuthorizedKeys` of internal/ssh/server/publickeycallback.go, translated on this run (`ssh.ParseAuthorizedKey` is a
    parameter; a key is its marshalled form; the loop runs on fuel).  Under the parser's contract — on the content `enc lines`
    it skips to the first key line and hands back that key and the content of the lines behind it, or fails when no line is a
    key; it consumes something whenever it succeeds — and with fuel for the lines and the bytes: the translated function
    never panics and returns a nil error, granting the session, exactly when some line of the file carries the offered key —
    comments, blank lines, options and garbage anywhere, also after the last key (the repaired defect). -/
theorem C09_generated_key_check_accepts_exactly_listed (ext : Go.Ext) (keyOf : Bytes → Option Key) (enc : List Bytes → Bytes)
    (hc : GenKeys.Contract ext keyOf enc) (hs : GenKeys.Shrinks ext) (u : Go.GoUser) (lines : List Bytes) (offered : Key)
    (hf : (enc lines).length < ext.fuel) (hl : lines.length < ext.fuel) :
    ∃ e, Gen.Keys.verifyAuthorizedKeys ext u (enc lines) offered = Outcome.ok ((), e) ∧
      (e = none ↔ ∃ l ∈ lines, keyOf l = some offered) := by
  refine ⟨_, GenKeys.verify_spec ext hs u (enc lines) offered hf, ?_⟩
  rw [GenKeys.keysG_model ext keyOf enc hc]
  have hm := mem_collectKeys keyOf ext.fuel lines offered hl
  rw [← hm, ← List.contains_iff_mem]
  cases (collectKeys keyOf ext.fuel lines).contains offered <;> simp

/-- non-vacuity: a two-key file with a trailing comment, parsed by a toy `ParseAuthorizedKey` over newline-terminated lines
    (lines starting with 'k' are keys) -/
example :
    let parse : Go.GoString → Go.GoString × Go.GoString × List Go.GoString × Go.GoString × Go.GoErr := fun b =>
      let ls := (splitOnByte NL b).dropLast
      match ls.dropWhile (fun l => l.head? ≠ some 107) with
      | [] => ([], [], [], [], some [])
      | k :: rest => (k, [], [], rest.flatMap (· ++ [NL]), none)
    let ext : Go.Ext := { parseFloat := fun _ => (0, none), parseAuthorizedKey := parse, fuel := 40 }
    Gen.Keys.verifyAuthorizedKeys ext {} (b!"# c\nk1\n\nk2\n# trailing\n") (b!"k2") = Outcome.ok ((), none) ∧
    (match Gen.Keys.verifyAuthorizedKeys ext {} (b!"# c\nk1\n\nk2\n# trailing\n") (b!"k3") with
      | .ok (_, some _) => true | _ => false) = true := by
  decide +kernel

/-- **Tie G: the password callback as translated from the working tree grants exactly the three documented cases.**
    `Server.Callback` and `backgroundCanSSH` of internal/server/server.go, translated on this run with every index
    expression guarded, never panic, and return a nil error — the login is granted — exactly when `user.New` accepted the
    user and: it is the health user with the health password, or the schedule (continuous) user whose password is the name
    of a configured scheduled (continuous) job one of whose allowed hosts resolves to the address the connection comes
    from (what stands before the first ':' of `RemoteAddr().String()`).  For every connection, password, job configuration
    and behaviour of `user.New` and `net.LookupIP` (a failing lookup yields no address). -/
theorem C09_generated_callback_grants_exactly (ext : Go.Ext) (s : Gen.Auth.Server) (c : Go.GoConnMeta) (pw : Bytes) :
    ∃ granted : Bool, GenAuth.granted (Gen.Auth.Server.Callback ext s c pw) = some granted ∧
      (granted = true ↔
        (ext.userNew c.user c.remoteAddr).2 = none ∧
        let user := (ext.userNew c.user c.remoteAddr).1.Name
        let ip := GenAuth.remoteIPOf c
        ((user = Facts.healthUserBytes ∧ pw = Facts.healthUserBytes)
          ∨ (user = Facts.scheduleUserBytes ∧
              ∃ j ∈ ext.schedule, pw = j.Name ∧ ∃ a ∈ j.AllowFrom, ip ∈ GenAuth.lookupOf ext a)
          ∨ (user = Facts.continuousUserBytes ∧
              ∃ j ∈ ext.continuous, pw = j.Name ∧ ∃ a ∈ j.AllowFrom, ip ∈ GenAuth.lookupOf ext a))) := by
  refine ⟨_, GenAuth.Callback_refines ext s c pw, ?_⟩
  have jobs (l : List Go.GoJob) (p : Job → Prop) : (∃ j ∈ l.map GenAuth.jobOf, p j) ↔ ∃ j ∈ l, p (GenAuth.jobOf j) :=
    ⟨fun ⟨_, hx, hp⟩ => let ⟨y, hy, e⟩ := List.mem_map.1 hx; ⟨y, hy, e ▸ hp⟩,
      fun ⟨_, hy, hp⟩ => ⟨_, List.mem_map_of_mem hy, hp⟩⟩
  rw [Bool.and_eq_true, C09_password_decision, jobs, jobs, Option.isNone_iff_eq_none]
  rfl

/-- the translated `backgroundCanSSH` is the model's function, whatever `net.LookupIP` does -/
theorem C09_generated_backgroundCanSSH_refines_model (ext : Go.Ext) (s : Gen.Auth.Server) (u : Go.GoUser) (pw ip : Bytes)
    (j : Go.GoJob) :
    Gen.Auth.Server.backgroundCanSSH ext s u pw ip j.Name j.AllowFrom
      = (s, backgroundCanSSH (GenAuth.lookupOf ext) pw ip (GenAuth.jobOf j)) :=
  GenAuth.backgroundCanSSH_refines ext s u pw ip j

/-- non-vacuity: a configured scheduled job, its password, an allowed address: the translated callback grants; with a
    different address it does not -/
example :
    let ext : Go.Ext := { parseFloat := fun _ => (0, none), schedule := [⟨b!"job1", [b!"10.0.0.1"]⟩] }
    GenAuth.granted (Gen.Auth.Server.Callback ext {} ⟨Facts.scheduleUserBytes, b!"10.0.0.1:4711"⟩ (b!"job1")) = some true ∧
    GenAuth.granted (Gen.Auth.Server.Callback ext {} ⟨Facts.scheduleUserBytes, b!"10.0.0.2:4711"⟩ (b!"job1")) = some false := by
  decide +kernel

/-- non-vacuity: a file with a comment after its last key (the input that used to fail) -/
example : verifyAuthorizedKeys (fun l => if l.head? = some 107 then some l else none)
    [b!"# c", b!"k1", [], b!"k2", b!"# trailing"] (b!"k2") = true := by decide +kernel

end Dtail.C09
