/-
C14 — connection slots are bounded by MaxConnections and always given back.
-/
import DtailModel.Lemmas.Conn
import DtailModel.Lemmas.GenConn
namespace Dtail.C14

/-- (after the fix) **For every history** of connection attempts of every kind — refused,
    failed handshakes, logins that never open a session, any number of shell requests, orderly
    and abrupt closes — the number of connections the server reports equals the number
    actually open, is never negative and never exceeds MaxConnections. -/
theorem C14_full_holds (max : Nat) (history : List CLabel) (s : ConnState)
    (h : connRun (connInit max) history = some s) :
    s.counter = (openCount s.conns : Int) ∧ 0 ≤ s.counter ∧ openCount s.conns ≤ max := by
  obtain ⟨⟨hc, hm⟩, hmax⟩ := connIsRun.inv (P := fun a => Inv a ∧ a.max = max)
    (fun a a' l ha hl => (connStep_inv a a' l ha.1 hl).imp id (·.trans ha.2)) history _ s
    ⟨⟨rfl, Nat.zero_le _⟩, rfl⟩ h
  exact ⟨hc, hc ▸ Int.natCast_nonneg _, hmax ▸ hm⟩

/-- a new connection is accepted exactly when fewer than MaxConnections are open -/
theorem C14_accept_iff (s s' : ConnState) (h : Inv s) (hs : connStep s .connect = some s') :
    (s'.conns.getLast? = some .handshaking ↔ openCount s.conns < s.max) := by
  -- the limit test reads the counter, which by the invariant is the number of open connections
  have hc := h.1
  simp only [connStep] at hs
  by_cases hlim : s.counter ≥ s.max
  · rw [if_pos hlim] at hs; cases hs
    simp [List.getLast?_append]; omega
  · rw [if_neg hlim] at hs; cases hs
    simp [List.getLast?_append]; omega

/-- The defects that were repaired, on the old transition function: three logins that close
    without a shell leave the counter at 3; one connection with two shell requests drives it
    negative; connects that overlap their handshakes all pass the limit. -/
theorem C14_old_defects :
    (∃ s, ([CLabel.connect, .handshakeOk 0, .close 0, .connect, .handshakeOk 1, .close 1, .connect, .handshakeOk 2, .close 2].foldl
        (fun o l => o.bind (oldStep · l)) (some ⟨3, 0, []⟩)) = some s ∧ s.counter = 3)
    ∧ (∃ s, ([CLabel.connect, .handshakeOk 0, .shell 0, .shell 0, .close 0].foldl
        (fun o l => o.bind (oldStep · l)) (some ⟨3, 0, []⟩)) = some s ∧ s.counter = -1)
    ∧ (∃ s, ([CLabel.connect, .connect, .handshakeOk 0, .handshakeOk 1].foldl
        (fun o l => o.bind (oldStep · l)) (some ⟨1, 0, []⟩)) = some s ∧ s.counter = 2) :=
  ⟨⟨_, rfl, rfl⟩, ⟨_, rfl, rfl⟩, ⟨_, rfl, rfl⟩⟩

/-- **Tie G: the counter operations as translated from the working tree are the model's.**  `serverLimitExceeded`,
    `incrementConnections` and `decrementConnections` of internal/server/stats.go, translated on this run: on states that
    agree on the counter and the limit, what `listenerLoop` does when a connection arrives (refuse on a non-nil error,
    otherwise take a slot) is the model's `connect` step — refused exactly when the model refuses — and the decrement is
    what the model's `handshakeFail` and `close` steps do.  The model's invariant (`C14_full_holds`: the counter is the
    number of open connections and never exceeds the limit) thereby speaks about these functions. -/
theorem C14_generated_counter_refines_model (ext : Go.Ext) (g : Gen.Conn.stats) (s s' : ConnState) (i : Nat)
    (hr : GenConn.Rel ext g s) :
    (connStep s .connect = some s' →
      GenConn.Rel ext (GenConn.accept ext g).1 s' ∧
      ((GenConn.accept ext g).2 = false ↔ s'.conns = s.conns ++ [.refused])) ∧
    ((connStep s (.handshakeFail i) = some s' ∨ connStep s (.close i) = some s') →
      GenConn.Rel ext (Gen.Conn.stats.decrementConnections ext g) s') :=
  ⟨GenConn.accept_refines ext g s s' hr, GenConn.release_refines ext g s s' i hr⟩

/-- the translated limit test by itself: an error exactly when the counter has reached the configured limit, and the
    counter is left as it was -/
theorem C14_generated_limit_test (ext : Go.Ext) (g : Gen.Conn.stats) :
    (Gen.Conn.stats.serverLimitExceeded ext g).1 = g ∧
    ((Gen.Conn.stats.serverLimitExceeded ext g).2 ≠ none ↔ g.currentConnections ≥ ext.maxConnections) :=
  GenConn.limit_spec ext g

/-- non-vacuity: a full server refuses, one below the limit takes the slot -/
example :
    let ext : Go.Ext := { parseFloat := fun _ => (0, none), maxConnections := 2 }
    (GenConn.accept ext ⟨2, 7⟩).2 = false ∧ (GenConn.accept ext ⟨1, 7⟩) = (⟨2, 8⟩, true) := by decide +kernel

/-- non-vacuity: on the repaired transition function the same histories behave -/
example : (connRun (connInit 3) [.connect, .handshakeOk 0, .close 0, .connect, .handshakeOk 1, .shell 1, .shell 1, .close 1]).map (·.counter)
    = some 0 := by decide +kernel

end Dtail.C14
