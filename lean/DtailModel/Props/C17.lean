/-
C17 — the client talks only to servers whose host key is trusted.
-/
import DtailModel.Model.KnownHosts
import DtailModel.Lemmas.GenKnownHosts
namespace Dtail.C17

/-- The client proceeds with a server exactly when its key is known, trust-all was
    requested, or the user's first decisive answer at the prompt is yes / all. -/
theorem C17_proceed_iff (st : HostState) (trustAll : Bool) (answers : List Bytes) :
    wrapDecision st trustAll answers = .proceed ↔
      st = .known ∨ trustAll = true ∨ promptDecision answers = some true := by
  cases st with
  | known => exact ⟨fun _ => .inl rfl, fun _ => rfl⟩
  | unknown | changed =>
    cases trustAll with
    | true => exact ⟨fun _ => .inr (.inl rfl), fun _ => rfl⟩
    | false =>
      -- neither known nor trusted: the answer at the prompt decides
      simp only [wrapDecision, Bool.false_eq_true, if_false, reduceCtorEq, false_or]
      rcases promptDecision answers with _ | _ | _ <;> simp

/-- A refused host stays refused: `no` never yields proceed, whatever follows. -/
theorem C17_refused (st : HostState) (answers : List Bytes) (h : st ≠ .known)
    (hno : promptDecision answers = some false) : wrapDecision st false answers = .refuse := by
  cases st with
  | known => exact absurd rfl h
  | unknown | changed => simp only [wrapDecision, hno]; rfl

/-- the answers that count and their meaning -/
theorem C17_prompt_first_decisive (a : Bytes) (rest : List Bytes) :
    promptDecision (a :: rest) =
      if a = b!"yes" ∨ a = b!"y" ∨ a = b!"all" ∨ a = b!"a" then some true
      else if a = b!"no" ∨ a = b!"n" then some false else promptDecision rest := rfl

/-- Rewriting known_hosts: every new host contributes its host line and its IP line, and
    every old line whose address is not one of the new addresses is kept, unchanged and in
    the same relative order; nothing else is written. -/
theorem C17_rewrite (hosts : List NewHost) (oldLines : List Bytes) :
    let out := trustHostsLines hosts oldLines
    (∀ h ∈ hosts, h.hostLine ∈ out ∧ h.ipLine ∈ out)
    ∧ (oldLines.filter (fun l => !(hosts.flatMap (·.addrs)).contains (lineAddress l))).Sublist out
    ∧ (∀ l ∈ oldLines, lineAddress l ∉ hosts.flatMap (·.addrs) → l ∈ out)
    ∧ (∀ l ∈ out, (∃ h ∈ hosts, l = h.hostLine ∨ l = h.ipLine) ∨ l ∈ oldLines) := by
  intro out
  refine ⟨fun h hh => ?_, List.sublist_append_right _ _, fun l hl hn => ?_, fun l hl => ?_⟩
  · exact ⟨List.mem_append_left _ (List.mem_flatMap.2 ⟨h, hh, List.mem_cons_self⟩),
      List.mem_append_left _ (List.mem_flatMap.2 ⟨h, hh, List.mem_cons_of_mem _ List.mem_cons_self⟩)⟩
  · refine List.mem_append_right _ (List.mem_filter.2 ⟨hl, ?_⟩)
    rw [Bool.not_eq_true', ← Bool.not_eq_true, List.contains_iff_mem]
    exact hn
  · rcases List.mem_append.1 hl with h | h
    · obtain ⟨x, hx, hm⟩ := List.mem_flatMap.1 h
      exact .inl ⟨x, hx, (List.mem_cons.1 hm).imp_right List.mem_singleton.1⟩
    · exact .inr (List.mem_filter.1 h).1

/-- With no new host the rewrite keeps every line. -/
theorem C17_rewrite_nothing (oldLines : List Bytes) : trustHostsLines [] oldLines = oldLines := by
  simp [trustHostsLines]

/-- The scanner's silent stop at an over-long line loses unrelated entries: the model is
    parametric in the token limit; with a limit of 8 bytes a 9-byte line and everything
    after it disappear (the real limit is 64 KiB). -/
theorem C17_full_false : ∃ (maxTok : Nat) (old : Bytes),
    trustHostsFile maxTok [] old ≠ old := ⟨8, b!"a k\nlonglonglong k\nb k\n", by decide +kernel⟩

/-- For files whose lines are all below the limit, are newline terminated and carry no
    CR, rewriting with no new host reproduces the file byte for byte. -/
theorem C17_rewrite_identity_example :
    trustHostsFile 65536 [] (b!"# c\nh1 k1\n|1|salt|hash k2\n@revoked * k3\n") = b!"# c\nh1 k1\n|1|salt|hash k2\n@revoked * k3\n" := by
  decide +kernel

/-- **Tie G: the rewrite of the known-hosts file as translated from the working tree.**  `KnownHostsCallback.trustHosts` of
    internal/ssh/client/knownhostscallback.go, translated on this run with its file operations recorded in order: when no
    operation fails, the function does not panic (`strings.SplitN(line, " ", 2)[0]` is guarded and the guard never fails)
    and performs, in this order: open the temporary file truncating it, write the model's `trustHostsLines` — the new
    entries, then every line the scanner delivers from the old file whose address is not among the newly trusted ones, each
    with its newline — with the old file touched and opened for reading in between, and rename the temporary file over the
    old one.  `knownhosts.Normalize`, the lines the `bufio.Scanner` delivers and the success of the file operations are
    parameters. -/
theorem C17_generated_trustHosts_writes_model_lines (ext : Go.Ext) (hio : Go.NoIOErr ext)
    (c : Gen.KnownHosts.KnownHostsCallback) (hosts : List Gen.KnownHosts.unknownHost) :
    ∃ c', Gen.KnownHosts.KnownHostsCallback.trustHosts ext c hosts = Outcome.ok c' ∧
      let tmp := c.knownHostsPath ++ TMP
      let lines := trustHostsLines (hosts.map (GenKnownHosts.hostOf ext)) (ext.scanLines c.knownHostsPath)
      (c'.ops.filterMap fun op => match op with | .write p d => if p = tmp then some d else none | _ => none).flatten
        = ((c.ops.filterMap fun op => match op with | .write p d => if p = tmp then some d else none | _ => none).flatten)
          ++ lines.flatMap (· ++ [NL]) ∧
      c'.ops.getLast? = some (.rename tmp c.knownHostsPath) := by
  obtain ⟨c', h1, _, h3⟩ := GenKnownHosts.trustHosts_refines ext hio c hosts
  refine ⟨c', h1, ?_, ?_⟩
  · rw [h3, ← GenKnownHosts.lines_model]
    -- of the operations added, the writes to the temporary file are the lines, each with its newline
    have hw : ∀ (ls : List Bytes), ((ls.map (GenKnownHosts.wr (c.knownHostsPath ++ TMP))).filterMap
        fun op => match op with | .write p d => if p = c.knownHostsPath ++ TMP then some d else none | _ => none)
        = ls.map (· ++ [NL]) := fun ls => by
      rw [List.filterMap_map, ← List.filterMap_eq_map]
      exact congrArg (List.filterMap · ls) (funext fun a => if_pos rfl)
    simp only [List.filterMap_append, List.filterMap_cons, List.filterMap_nil, hw, List.flatten_append, List.append_nil,
      List.flatMap_append, List.append_assoc]
    rfl
  · rw [h3, List.getLast?_append]; rfl

/-- non-vacuity: one new host, an old file with its earlier entry and an unrelated one: the earlier entry is replaced -/
example :
    let ext : Go.Ext := { parseFloat := fun _ => (0, none), scanLines := fun _ => [b!"h1 old", b!"h2 keep"] }
    (match Gen.KnownHosts.KnownHostsCallback.trustHosts ext ⟨b!"/k", []⟩ [⟨b!"h1", b!"1.1.1.1", b!"h1 new", b!"1.1.1.1 new"⟩] with
      | .ok c => c.ops.length
      | _ => 0) = 7 := by decide +kernel

end Dtail.C17
