/-
C13 — concurrent file reads never exceed the configured limits.
-/
import DtailModel.Lemmas.Limiter
namespace Dtail.C13

/-- (after the fix) **For every history** — any number of reads starting, queueing,
    finishing and being cancelled at any point, any capacity — the number of files being read
    equals the number of tokens in the limiter and never exceeds the limit. -/
theorem C13_full_holds (cap n : Nat) (history : List LimLabel) (s : LimState)
    (h : limRun (limInit cap n) history = some s) :
    holding s.reads = s.tokens ∧ holding s.reads ≤ cap := by
  obtain ⟨_, ht, hc⟩ := limIsRun.inv (limStep_inv cap) history _ s (limInit_inv cap n) h
  exact ⟨ht.symm, ht ▸ hc⟩

/-- progress: whenever fewer files are being read than the limit allows, a waiting read can
    proceed; and a read that finishes always makes room -/
theorem C13_progress (s : LimState) (i : Nat) (hw : s.reads[i]? = some .waiting) (hfree : s.tokens < s.cap) :
    (limStep s (.acquireAfterWait i)).isSome = true := by
  simp [limStep, hw, hfree]

/-- a cancelled waiter neither keeps a slot nor releases someone else's -/
theorem C13_cancel_neutral (s s' : LimState) (i : Nat) (h : limStep s (.cancelWhileWaiting i) = some s') :
    s'.tokens = s.tokens := by
  simp only [limStep, Option.ite_none_right_eq_some, Option.some.injEq] at h
  obtain ⟨_, rfl⟩ := h
  rfl

/-- The defect that was repaired, on the old transition function: capacity 1, A holds, B waits
    and is cancelled (its deferred receive takes A's token), C acquires — two files are read
    at once. -/
theorem C13_old_defect :
    ∃ s, ((((((some (limInit 1 3)).bind (limStepOld · (.tryAcquire 0))).bind (limStepOld · (.startWait 1))).bind
      (limStepOld · (.cancelWhileWaiting 1))).bind (limStepOld · (.tryAcquire 2))) = some s)
      ∧ holding s.reads = 2 ∧ s.cap = 1 :=
  ⟨_, rfl, rfl, rfl⟩

/-- non-vacuity: the same history on the repaired transition function is blocked at C -/
example : limRun (limInit 1 3) [.tryAcquire 0, .startWait 1, .cancelWhileWaiting 1, .tryAcquire 2] = none := by
  decide +kernel

end Dtail.C13
