/-
C16 — no message content can crash the client; colouring never alters text.
(after the two `fix:` commits: length checks in brush.go and maprhandler.go)
-/
import DtailModel.Lemmas.Color
import DtailModel.Lemmas.GenBrush
namespace Dtail.C16

/-- Colouring is lossless for every message and every colour configuration: the rendering
    with its escape codes removed is the message itself. -/
theorem C16_lossless (tbl : Tbl) (line : Bytes) : texts (colorfy tbl line) = line :=
  texts_colorfy tbl line

/-- What the client prints in colour mode, codes removed, is what it prints in plain mode. -/
theorem C16_print_lossless (tbl : Tbl) (msgs : List Bytes) :
    texts (printedColored tbl msgs) = printed msgs := by
  unfold printedColored printed
  induction msgs.filter (fun m => !isHidden m) with
  | nil => rfl
  | cons m ms ih => simp [List.flatMap_cons, texts_colorfy, ih]

/-- No index in `Colorfy` is ever out of range: with Go's indexing made explicit the
    function never panics and equals the total model, for every message. -/
theorem C16_colorfy_no_panic (tbl : Tbl) (line : Bytes) :
    colorfyO tbl line = .ok (colorfy tbl line) := by
  -- the same three tests on both sides: with `.ok` pushed into the branches of `colorfy` the two chains are one
  unfold colorfyO colorfy
  rw [paintRemoteO_eq, paint3O_eq, paint3O_eq, apply_ite Outcome.ok, apply_ite Outcome.ok, apply_ite Outcome.ok]

/-- The mapreduce handler's `message[0]` is guarded: no message, including the empty one,
    makes it panic, and it is `true` exactly for messages starting with 'A'. -/
theorem C16_mapr_first_no_panic (m : Bytes) : firstIsA m = .ok (decide (m.head? = some 65)) := by
  cases m with
  | nil => rfl
  | cons b bs => simp [firstIsA]

/-- Chunk boundaries of the transport are irrelevant to the mapr and health handlers too. -/
theorem C16_mapr_chunking (a b : Bytes) :
    maprFeed (a ++ b) = b.foldl maprByte (maprFeed a) := by simp [maprFeed, List.foldl_append]

/-- non-vacuity / sanity: a REMOTE record is rendered with codes around every field -/
example : texts (colorfy defaultTbl (b!"REMOTE|h|100|7|id|ERROR x\n")) = b!"REMOTE|h|100|7|id|ERROR x\n" ∧
    (colorfy defaultTbl (b!"REMOTE|h|100|7|id|ERROR x\n")).length > 40 := by decide +kernel

/-- **`Colorfy` of the working tree never crashes and never alters text.**  `Colorfy`, `paintRemote`, `paintClient`,
    `paintServer`, `paintSeverity`, `paintDefault` are translated on every run with every positional field access
    guarded; `color.PaintWithAttr` is a parameter.  For every line — any prefix, any number of fields — no guard
    fails, and for every way of painting from which the paint can be removed again (`strip (paint sb text) =
    strip sb ++ text`), the painted line with the paint removed is the line. -/
theorem C16_generated_colorfy_lossless (ext : Go.Ext) (strip : Bytes → Bytes) (hs : GenBrush.Strips ext strip) (line : Bytes) :
    ∃ out, Gen.Brush.Colorfy ext line = Outcome.ok out ∧ strip out = line :=
  GenBrush.Colorfy_lossless ext strip hs line

/-- the assumption is satisfiable: painting that adds nothing, removed by doing nothing -/
example : GenBrush.Strips { parseFloat := fun _ => (0, none) } id := ⟨rfl, fun _ _ => rfl⟩

end Dtail.C16
