/-
C15 — a mapreduce outfile is never observable half-written.
-/
import DtailModel.Lemmas.Outfile
import DtailModel.Lemmas.GenOutfile
namespace Dtail.C15

/-- **No half-written outfile.** Without `append`, for every earlier state of the file system,
    every result and every crash point `k` (the first `k` operations happened): the outfile
    path holds what it held before (absent or an earlier complete result), or the complete
    new result with its header — and in that case the .query file holds the query text. -/
theorem C15_noappend (fs : FS) (r : OutReq) (k : Nat) (h : r.append = false) :
    let fs' := applyOps fs ((writeResultOps fs r).take k)
    fsGet fs' r.path = fsGet fs r.path ∨
    (fsGet fs' r.path = some (completeResult r) ∧ fsGet fs' (r.path ++ QUERYEXT) = some r.rawQuery) := by
  dsimp only
  rw [ops_noappend fs r h]
  by_cases hk : k ≤ (preOps r).length
  · -- the crash came before the rename: nothing has touched the outfile
    rw [List.take_append_of_le_length hk]
    exact Or.inl (applyOps_untouched _ _ _ fun op hop => preOps_untouched r op (List.mem_of_mem_take hop))
  · cases r.final
    · rw [if_neg Bool.false_ne_true, List.append_nil, List.take_of_length_le (Nat.le_of_not_le hk)]
      exact Or.inl (applyOps_untouched _ _ _ (preOps_untouched r))
    · -- the rename has happened: it brings the complete temporary file, and leaves the query file alone
      obtain ⟨ht, hq⟩ := after_preOps fs r
      rw [if_pos rfl, List.take_of_length_le (by rw [List.length_append]; exact Nat.lt_of_not_le hk), applyOps_concat]
      exact Or.inr ⟨fsGet_rename _ _ _ _ ht,
        (applyOp_untouched _ _ _ (touches_rename (tmp_ne_qf r.path) (qf_ne r.path))).trans hq⟩

/-- **Append never alters earlier rows.** With `append`, whatever the crash point, what the
    outfile held before is a prefix of what it holds afterwards. -/
theorem C15_append_prefix (fs : FS) (r : OutReq) (k : Nat) (h : r.append = true) :
    ((fsGet fs r.path).getD []).isPrefixOf
      ((fsGet (applyOps fs ((writeResultOps fs r).take k)) r.path).getD []) = true := by
  obtain ⟨ws, hws, hops⟩ := ops_append fs r h
  rw [List.isPrefixOf_iff_prefix, hops]
  refine applyOps_extends _ _ (fun op hop => ?_) fs
  rcases List.mem_append.1 (List.mem_of_mem_take hop) with hq | hq
  · exact Or.inl (queryOps_untouched r op hq)
  · rcases List.mem_cons.1 hq with rfl | hw
    · exact Or.inr (Or.inl rfl)
    · exact Or.inr (Or.inr (hws op hw))

/-- **Tie G: the file operations of the translated `WriteResult` are the model's `writeResultOps`.**  `WriteResult`,
    `writeQueryFile`, `getOutfileFD`, `resultWriteUnformatted` and `resultWriteUnformattedHeader` of
    internal/mapr/groupsetresult.go, translated on this run with every file operation recorded in order: when no operation
    fails, `os.Stat` answers for the file system `fs`, the query has an outfile and every row carries one value per column
    (what `GroupSet.result` builds), the translated function does not panic (no nil dereference of `query.Outfile`), returns
    no error, and has performed exactly the operations of `writeResultOps fs r` — the sequence whose every prefix the crash
    theorems above are about. -/
theorem C15_generated_writeresult_is_model_ops (ext : Go.Ext) (hio : GenOutfile.NoIOErr ext) (fs : FS)
    (hstat : GenOutfile.StatAgrees ext fs) (g : Gen.Outfile.GroupSet) (query : Gen.Outfile.Query) (o : Gen.Outfile.Outfile)
    (ho : query.Outfile = some o) (final : Bool) (hrows : ∀ row ∈ ext.rowValues, row.length = query.Select.length) :
    Gen.Outfile.GroupSet.WriteResult ext g query final
      = Outcome.ok (⟨g.ops ++ (writeResultOps fs (GenOutfile.reqOf ext query o final)).map GenOutfile.ofFOp⟩, none) :=
  GenOutfile.WriteResult_refines ext hio fs hstat g query o ho final hrows

/-- **Whatever file operation fails, the translated `WriteResult` returns.**  For every behaviour of the file system
    (`ext.ioErr` decides for each operation, given the history, whether it fails), of `os.Stat` and for every result: with
    an outfile in the query the function ends in a normal return — with the error of the failing operation, after removing
    the temporary file when the final rename failed — and never in a nil dereference or any other panic. -/
theorem C15_generated_writeresult_never_panics (ext : Go.Ext) (g : Gen.Outfile.GroupSet) (query : Gen.Outfile.Query)
    (o : Gen.Outfile.Outfile) (ho : query.Outfile = some o) (final : Bool) :
    ∃ r, Gen.Outfile.GroupSet.WriteResult ext g query final = Outcome.ok r :=
  GenOutfile.WriteResult_returns ext g query o ho final

/-- **Whatever fails, what was done is a prefix of the model's operations.**  For every behaviour of the file system
    (`ext.ioErr` decides for each operation, given the history, whether it fails): the translated `WriteResult` returns, and
    the model operations among those it performed after `g.ops` (the `os.Remove` of the temporary file after a failed rename has
    none) are a prefix of `writeResultOps fs r` — the sequence whose every prefix the crash theorems are about — and all of it
    when no error is reported.  A change that goes on writing after a failed operation, reorders two operations on an error
    path, or reports success after a failure breaks this theorem. -/
theorem C15_generated_failures_leave_a_prefix (ext : Go.Ext) (fs : FS) (hstat : GenOutfile.StatAgrees ext fs)
    (g : Gen.Outfile.GroupSet) (query : Gen.Outfile.Query) (o : Gen.Outfile.Outfile) (ho : query.Outfile = some o)
    (final : Bool) (hrows : ∀ row ∈ ext.rowValues, row.length = query.Select.length) :
    ∃ g' e pre, Gen.Outfile.GroupSet.WriteResult ext g query final = Outcome.ok (g', e) ∧ g'.ops = g.ops ++ pre ∧
      pre.filterMap GenOutfile.toFOp <+: writeResultOps fs (GenOutfile.reqOf ext query o final) ∧
      (e = none → pre.filterMap GenOutfile.toFOp = writeResultOps fs (GenOutfile.reqOf ext query o final)) := by
  obtain ⟨⟨g', e⟩, hr, pre, hp1, hp2, hp3⟩ := GenOutfile.WriteResult_any ext g query o ho final
  rw [GenOutfile.full_is_model ext fs hstat query o ho final hrows] at hp2 hp3
  -- `toFOp` drops the removals that `clean` drops, and undoes `ofFOp`
  refine ⟨g', e, pre, hr, hp1, ?_, fun he => ?_⟩
  · have := hp2.filterMap GenOutfile.toFOp
    rwa [GenOutfile.filterMap_clean, GenOutfile.filterMap_of] at this
  · have := congrArg (List.filterMap GenOutfile.toFOp) (hp3 he)
    rwa [GenOutfile.filterMap_clean, GenOutfile.filterMap_of] at this

/-- **No half-written outfile under failing file operations and a crash, on the translated code.**  Replace mode, any
    behaviour of `ext.ioErr`, the process killed after any number `k` of the operations the translated `WriteResult` got to
    perform: the outfile path holds what it held before, or the complete new result (and then the .query file holds the query
    text).  (The removal of the temporary file after a failed rename touches neither path and is not replayed.) -/
theorem C15_generated_no_half_written_under_failures (ext : Go.Ext) (fs : FS) (hstat : GenOutfile.StatAgrees ext fs)
    (query : Gen.Outfile.Query) (o : Gen.Outfile.Outfile) (ho : query.Outfile = some o) (final : Bool)
    (hrows : ∀ row ∈ ext.rowValues, row.length = query.Select.length) (happ : o.AppendMode = false) (k : Nat) :
    ∃ g' e, Gen.Outfile.GroupSet.WriteResult ext {} query final = Outcome.ok (g', e) ∧
      let r := GenOutfile.reqOf ext query o final
      let fs' := applyOps fs ((g'.ops.take k).filterMap GenOutfile.toFOp)
      (fsGet fs' r.path = fsGet fs r.path ∨
        (fsGet fs' r.path = some (completeResult r) ∧ fsGet fs' (r.path ++ QUERYEXT) = some r.rawQuery)) := by
  obtain ⟨g', e, pre, hr, hops, hpre, _⟩ := C15_generated_failures_leave_a_prefix ext fs hstat {} query o ho final hrows
  refine ⟨g', e, hr, ?_⟩
  have hops : g'.ops = pre := hops
  have h1 : (pre.take k).filterMap GenOutfile.toFOp <+: writeResultOps fs (GenOutfile.reqOf ext query o final) :=
    (List.IsPrefix.filterMap GenOutfile.toFOp (List.take_prefix k pre)).trans hpre
  have h2 := List.prefix_iff_eq_take.1 h1
  show _ ∨ _
  rw [hops, h2]
  exact C15_noappend fs (GenOutfile.reqOf ext query o final) _ happ

/-- **No half-written outfile, on the translated code.**  Kill the process after any number `k` of the file operations the
    translated `WriteResult` performs (replace mode, starting from an empty history): the outfile path holds what it held
    before, or the complete new result — and then the .query file holds the query text. -/
theorem C15_generated_no_half_written (ext : Go.Ext) (hio : GenOutfile.NoIOErr ext) (fs : FS)
    (hstat : GenOutfile.StatAgrees ext fs) (query : Gen.Outfile.Query) (o : Gen.Outfile.Outfile)
    (ho : query.Outfile = some o) (final : Bool) (hrows : ∀ row ∈ ext.rowValues, row.length = query.Select.length)
    (happ : o.AppendMode = false) (k : Nat) :
    ∃ g' e, Gen.Outfile.GroupSet.WriteResult ext {} query final = Outcome.ok (g', e) ∧
      let r := GenOutfile.reqOf ext query o final
      let fs' := applyOps fs ((g'.ops.take k).filterMap GenOutfile.toFOp)
      (fsGet fs' r.path = fsGet fs r.path ∨
        (fsGet fs' r.path = some (completeResult r) ∧ fsGet fs' (r.path ++ QUERYEXT) = some r.rawQuery)) :=
  C15_generated_no_half_written_under_failures ext fs hstat query o ho final hrows happ k

/-- non-vacuity: the fourth operation (opening the temporary outfile) fails: the query file is complete, nothing else was
    touched, the error comes back -/
example :
    let failFourth : List Go.GoFOp → Go.GoFOp → Go.GoErr := fun h _ => if h.length = 3 then some (b!"disk full") else none
    let ext : Go.Ext := { parseFloat := fun _ => (0, none), rowValues := [[b!"1"]], ioErr := failFourth }
    let q : Gen.Outfile.Query := { Select := [⟨b!"a"⟩], Limit := -1, Outfile := some ⟨b!"/d/o", false⟩, RawQuery := b!"q" }
    (match Gen.Outfile.GroupSet.WriteResult ext {} q true with
      | .ok (g, some _) => g.ops.length
      | _ => 0) = 3 := by decide +kernel

/-- non-vacuity of the two theorems about failing runs: a rename that fails (the ninth operation) — the hypotheses hold
    (`os.Stat` answers for the empty file system), what was performed is the first eight operations of the model's nine, and an
    error comes back -/
example :
    let failNinth : List Go.GoFOp → Go.GoFOp → Go.GoErr := fun h _ => if h.length = 8 then some (b!"no space") else none
    let ext : Go.Ext := { parseFloat := fun _ => (0, none), rowValues := [[b!"1"]], ioErr := failNinth, osStat := fun _ => ({}, some []) }
    let o : Gen.Outfile.Outfile := ⟨b!"/d/o", false⟩
    let q : Gen.Outfile.Query := { Select := [⟨b!"a"⟩], Limit := -1, Outfile := some o, RawQuery := b!"q" }
    GenOutfile.StatAgrees ext [] ∧ (∀ row ∈ ext.rowValues, row.length = q.Select.length) ∧
    (match Gen.Outfile.GroupSet.WriteResult ext {} q true with
      | .ok (g, some _) => g.ops.filterMap GenOutfile.toFOp == (writeResultOps [] (GenOutfile.reqOf ext q o true)).take 8
          && (writeResultOps [] (GenOutfile.reqOf ext q o true)).length == 9
      | _ => false) = true := by
  refine ⟨fun p => ?_, ?_, ?_⟩
  · show (some [] : Go.GoErr) ≠ none
    intro h; cases h
  · decide +kernel
  · decide +kernel

/-- non-vacuity: a replace-mode request, two columns, one row: the translated function records the eight writes between
    the two renames -/
example :
    let ext : Go.Ext := { parseFloat := fun _ => (0, none), rowValues := [[b!"1", b!"2"]] }
    let q : Gen.Outfile.Query := { Select := [⟨b!"a"⟩, ⟨b!"b"⟩], Limit := -1, Outfile := some ⟨b!"/d/o", false⟩, RawQuery := b!"q" }
    (match Gen.Outfile.GroupSet.WriteResult ext {} q true with
      | .ok (g, none) => g.ops.length
      | _ => 0) = 13 := by decide +kernel

/-- non-vacuity / sanity: a final non-append write ends with the complete result in place -/
example :
    let r : OutReq := ⟨b!"/d/o", false, b!"q", [b!"a", b!"b"], [[b!"1", b!"2"]], -1, true⟩
    fsGet (applyOps [] (writeResultOps [] r)) (b!"/d/o") = some (completeResult r) := by decide +kernel

/-- The recorded finding as a theorem about the model: after a crash inside the header a
    later complete append run leaves a file that does not start with the header. -/
theorem C15_torn_header :
    let r : OutReq := ⟨b!"/d/o", true, b!"q", [b!"count(x)"], [[b!"7"]], -1, true⟩
    let torn : FS := [(b!"/d/o", b!"count(")]
    fsGet (applyOps torn (writeResultOps torn r)) (b!"/d/o") = some (b!"count(7\n") := by decide +kernel

end Dtail.C15
