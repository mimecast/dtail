/-
C03 — dgrep selects exactly the lines grep semantics prescribe.
-/
import DtailModel.Lemmas.Grep
import DtailModel.Lemmas.GenGrep
import DtailModel.Lemmas.GenPlain
namespace Dtail.C03
variable {α : Type}

/-- The context automaton of the server equals the block specification of grep semantics:
    for every line sequence, every selection, every before/after/max (no bound on any). -/
theorem C03_ctx (B A M : Nat) (ls : List (Bool × α)) :
    grun B A M (ginit M) ls = grepSpec B A M (blocks ls).1 (blocks ls).2 :=
  grun_eq_spec B A M ls

/-- **Tie G: the grep-context filter as translated from the working tree delivers grep semantics.**  `filterWithLContext`,
    `filterLineWithLContext`, `lContextNotMatched`, `lContextProcessBefore`, `lContextProcessMaxCount` of
    internal/io/fs/readfilelcontext.go, translated on this run (the raw lines are a list, `ls.beforeBuf` is a bounded queue,
    what is sent on `lines` is kept, the context is never cancelled): for every list of raw lines, every expression verdict
    and every `before`, `after`, `max` (`before` within what `make(chan, n)` accepts — beyond it the recorded finding of C10 applies, `C10_generated_huge_before_panics` —, fuel above `before` for the drain loop), the function returns
    normally — no index out of range, no queue operation that would block for ever — and the contents of the lines it has
    sent are the block specification of grep semantics on the lines with the expression's verdicts. -/
theorem C03_generated_filter_is_grep (ext : Go.Ext) (ltx : Go.GoLContext) (B A M : Nat)
    (hB : ltx.BeforeContext = (B : Int)) (hA : ltx.AfterContext = (A : Int)) (hM : ltx.MaxCount = (M : Int))
    (hfuel : B < ext.fuel) (hlim : (B : Int) ≤ 35184372088820) (f : Gen.Grep.readFile) (raws : List Bytes) (re : Go.GoRegex) :
    ∃ f', Gen.Grep.readFile.filterWithLContext ext f () ltx raws () re = Outcome.ok f' ∧
      GenGrep.sent f' = GenGrep.sent f ++
        grepSpec B A M (blocks (GenGrep.judged ext re raws)).1 (blocks (GenGrep.judged ext re raws)).2 := by
  obtain ⟨f', h1, h2⟩ := GenGrep.filter_refines ext ltx B A M hB hA hM hfuel hlim f raws re
  exact ⟨f', h1, by rw [h2, grun_eq_spec]⟩

/-- one raw line through the translated `filterLineWithLContext` is one step of the model's automaton: the same lines sent,
    reading aborted exactly when the model's step ends the run, related states otherwise -/
theorem C03_generated_step_is_model_step (ext : Go.Ext) (ltx : Go.GoLContext) (B A M : Nat) (ls : Gen.Grep.ltxState)
    (s : GState Bytes) (f : Gen.Grep.readFile) (raws : List Bytes) (re : Go.GoRegex) (x : Bytes)
    (hr : GenGrep.Rel ltx B A M ls s) (hfuel : B < ext.fuel) :
    GenGrep.StepGood ltx B A M f (gstep B A M s (ext.reMatch re x) x)
      (Gen.Grep.readFile.filterLineWithLContext ext f () ltx ls raws () re x) :=
  GenGrep.step_refines ext ltx B A M ls s f raws re x hr hfuel

/-- non-vacuity: before 1, after 1, max 1 on five lines of which the third and fifth are selected -/
example :
    let ext : Go.Ext := { parseFloat := fun _ => (0, none), reMatch := fun _ l => l.head? = some 120, fuel := 4 }
    (match Gen.Grep.readFile.filterWithLContext ext {} () ⟨1, 1, 1⟩ [b!"a", b!"b", b!"x1", b!"c", b!"x2"] () {} with
      | .ok f => GenGrep.sent f
      | _ => []) = [b!"b", b!"x1", b!"c"] := by decide +kernel

/-- The block view loses nothing: every line sequence is the concatenation of its blocks. -/
theorem C03_blocks_cover (ls : List (Bool × α)) : unblocks (blocks ls).1 (blocks ls).2 = ls :=
  unblocks_blocks ls

/-- Without any context option the plain filter path is taken; it agrees with the automaton
    and hence with the specification. -/
theorem C03_plain_path (ls : List (Bool × α)) :
    gplain ls = grepSpec 0 0 0 (blocks ls).1 (blocks ls).2 := by
  rw [← grun_eq_spec]
  induction ls with
  | nil => rfl
  | cons p rest ih =>
    obtain ⟨sel, x⟩ := p
    -- without options the state never changes: an unselected line is dropped, a selected one is sent
    have hstep : gstep 0 0 0 (ginit 0) sel x = (if sel then [x] else [], some (ginit 0)) := by cases sel <;> rfl
    rw [grun_cons, hstep]
    cases sel
    · exact ih
    · exact congrArg (x :: ·) ih

/-- Both filter paths together: what a cat/grep reader delivers. -/
theorem C03_filter (B A M : Nat) (ls : List (Bool × α)) :
    grepFilter B A M ls = grepSpec B A M (blocks ls).1 (blocks ls).2 := by
  unfold grepFilter
  by_cases h : B = 0 ∧ A = 0 ∧ M = 0
  · obtain ⟨rfl, rfl, rfl⟩ := h
    rw [if_pos ⟨rfl, rfl, rfl⟩]
    exact C03_plain_path ls
  · rw [if_neg h]
    exact grun_eq_spec B A M ls

/-- The specification, read back: with no limit and every line selected (the no-op
    patterns '', '.', '.*'), every line is output exactly once, in order. -/
theorem C03_noop_selects_all (B A : Nat) (l : List α) (a : Nat) :
    specGo B A a none (l.map (fun x => (([] : List α), x))) [] = l := by
  induction l generalizing a with
  | nil => simp [specGo]
  | cons x l ih => simp [specGo, gapOut, lastN, ih]

theorem C03_noop_flag (e : Bool) : matchFlag .noop e = true := rfl
theorem C03_invert_flag (e : Bool) : matchFlag .invert e = !matchFlag .default e := rfl
theorem C03_noop_patterns : clientFlag [] true = .noop ∧ clientFlag [46] false = .noop
    ∧ clientFlag [46, 42] true = .noop := by decide

/-- Nothing after the cut: once the budget is exhausted only owed trailing context of the
    current gap is output, whatever follows. -/
theorem C03_nothing_after_cut (B A a : Nat) (r : List α) (s : α) (bs : List (List α × α)) (t : List α) :
    specGo B A a (some 0) ((r, s) :: bs) t = r.take a := by simp [specGo]

/-- Full property for a whole dgrep: selection by the engine on the line *without* its
    terminator.  False on the unchanged tree (the code asks the engine about `line ++ "\n"`). -/
def C03_full : Prop :=
  ∀ (B A M : Nat) (f : RFlag) (engine : Bytes → Bool) (raw : List Bytes),
    (dgrepLines B A M f engine raw).map (·.2)
      = grepSpec B A M (blocks (raw.map (fun l => (matchFlag f (engine (chomp l)), l)))).1
                       (blocks (raw.map (fun l => (matchFlag f (engine (chomp l)), l)))).2

/-- Outside the finding signature (an engine whose answer does not depend on the line
    terminator) the whole dgrep selects exactly what the specification prescribes. -/
theorem C03_partial (B A M : Nat) (f : RFlag) (engine : Bytes → Bool) (raw : List Bytes)
    (h : sigNlSensitive engine raw = false) :
    (dgrepLines B A M f engine raw).map (·.2)
      = grepSpec B A M (blocks (raw.map (fun l => (matchFlag f (engine (chomp l)), l)))).1
                       (blocks (raw.map (fun l => (matchFlag f (engine (chomp l)), l)))).2 := by
  have hmap : raw.map (fun l => (matchFlag f (engine l), l))
      = raw.map (fun l => (matchFlag f (engine (chomp l)), l)) :=
    List.map_congr_left fun l hl => by
      rw [show engine l = engine (chomp l) by simpa using List.any_eq_false.1 h l hl]
  rw [← C03_filter]
  unfold dgrepLines grepFilter
  simp only [hmap]
  by_cases h0 : B = 0 ∧ A = 0 ∧ M = 0
  · rw [if_pos h0, if_pos h0]
    exact plainN_snd id _ 1
  · rw [if_neg h0, if_neg h0]
    exact grunN_snd B A M _ 0 _

/-- Witness on the unchanged tree: the pattern `o$` (an engine answering "ends in 'o'")
    selects nothing from the line "foo\n". -/
theorem C03_full_false : ¬ C03_full := by
  intro h
  have := h 0 0 0 .default (fun l => l.getLast? = some 111) [[102, 111, 111, 10]]
  revert this; decide +kernel

/-- Non-vacuity of `C03_partial`: a non-trivial terminator-insensitive engine. -/
example : sigNlSensitive (fun l => l.contains 111) [[102, 111, 111, 10], [98, 10], [111]] = false := by
  decide +kernel

/-- **Tie G for the path without context options.**  `filterWithoutLContext` of readfilelcontext.go with `transmittable`
    and the statistics ring of internal/io/fs, translated on this run: a reader that may not skip lines (cat, grep, mapreduce)
    started on a fresh file sends exactly the selected lines, in file order, each once and each with its position in the
    file as its running number — the plain path of `dgrepLines`, whose contents are `gplain` and hence the block
    specification with no context (`C03_plain_path`). -/
theorem C03_generated_plain_filter (ext : Go.Ext) (re : Go.GoRegex) (raws : List Bytes) (f : Gen.Fs.readFile)
    (hc : f.canSkipLines = false) (h0 : f.stats.lineCount = 0) (hl : f.lines = []) :
    ((Gen.Fs.readFile.filterWithoutLContext ext f () raws () re).lines.map GenPlain.numOf)
      = (((GenPlain.judged ext re raws).zipIdx 1).filter (·.1.1)).map
          (fun (p : (Bool × Bytes) × Nat) => (((p.2 : Nat) : Int), p.1.2)) ∧
    ((Gen.Fs.readFile.filterWithoutLContext ext f () raws () re).lines.map (fun l => (GenPlain.numOf l).2))
      = grepSpec 0 0 0 (blocks (GenPlain.judged ext re raws)).1 (blocks (GenPlain.judged ext re raws)).2 := by
  have hnum := GenPlain.plain_fresh ext re raws f hc h0 hl
  refine ⟨hnum, ?_⟩
  rw [← C03_plain_path, ← plainN_snd (fun n => (n : Int)) _ 1, ← hnum, List.map_map]
  rfl

end Dtail.C03
