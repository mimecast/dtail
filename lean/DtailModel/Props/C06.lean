/-
C06 — mapreduce accounts for every file of every server under any scheduling.
-/
import DtailModel.Lemmas.Aggregator
import DtailModel.Lemmas.AggregatorLive
import DtailModel.Lemmas.AggAlgebra
namespace Dtail.C06

/-- the aggregator invariant holds in every reachable state, under every interleaving of
    readers, aggregator and rotation goroutines -/
theorem C06_invariant (sizes : List Nat) (history : List ALabel) (s : Agg)
    (h : aggRun (aggInit sizes) history = some s) : AggInv s :=
  aggIsRun.inv aggStep_inv history _ s (aggInit_inv sizes) h

/-- never more than a file's lines, never a line twice: the aggregator has consumed at most
    what the reader has written, which is at most the file -/
theorem C06_no_duplicates (sizes : List Nat) (history : List ALabel) (s : Agg)
    (h : aggRun (aggInit sizes) history = some s) (r : Nat) (d : Rd) (n : Nat)
    (hd : s.rds[r]? = some d) (hn : s.sizes[r]? = some n) : d.consumed ≤ d.pushed ∧ d.pushed ≤ n :=
  let b := (C06_invariant sizes history s h).bounds r d n hd hn
  ⟨b.1, b.2.1⟩

/-- **Every line of every file is aggregated** — for every interleaving at whose end the
    aggregator has finished, every reader had registered its channel, and no channel is left
    waiting in the queue or in the hands of a rotation goroutine. -/
theorem C06_partial (sizes : List Nat) (history : List ALabel) (s : Agg)
    (h : aggRun (aggInit sizes) history = some s)
    (hdone : s.done = true) (hq : s.nextQ = []) (hl : s.limbo = [])
    (hreg : ∀ (r : Nat) (d : Rd), s.rds[r]? = some d → d.st ≠ RdSt.notRegistered)
    (r : Nat) (hr : r < s.sizes.length) : fullyConsumed s r := by
  have inv := C06_invariant sizes history s h
  have hrl : r < s.rds.length := by rw [inv.len]; exact hr
  obtain ⟨d, hd⟩ : ∃ d, s.rds[r]? = some d := ⟨s.rds[r], List.getElem?_eq_getElem hrl⟩
  obtain ⟨n, hn⟩ : ∃ n, s.sizes[r]? = some n := ⟨s.sizes[r], List.getElem?_eq_getElem hr⟩
  have hb := inv.bounds r d n hd hn
  refine ⟨d, n, hd, hn, ?_⟩
  rcases inv.tracked r d hd (hreg r d hd) with h1 | h1 | h1 | h1
  · obtain ⟨r0, d0, hc0, hd0, hst0, hcp0⟩ := inv.atDone hdone
    rw [h1] at hc0; cases hc0
    rw [hd] at hd0; cases hd0
    rw [hcp0]; exact hb.2.2 hst0
  · rw [hq] at h1; cases h1
  · rw [hl] at h1; cases h1
  · rw [h1.2]; exact hb.2.2 h1.1

/-! Two obligations on the source, regenerated by the fact extractor on every run: the aggregator
never sends into its own queue synchronously (the re-queue of a rotated channel happens in a
goroutine of its own, so a full queue with readers waiting to register cannot block it), and
both queues have room for at least one entry. -/

theorem C06_rotation_requeue_is_asynchronous : Facts.rotationRequeueAsync = true := by decide

theorem C06_queues_have_capacity : 0 < nextCap ∧ 0 < chanCap := by decide

/-- **Deadlock freedom** — in every reachable state of the system (any number of files and
    lines, any interleaving, queues of the code's capacities) in which the aggregator has not
    finished, some step is enabled: no schedule can wedge readers and aggregator against each
    other.  (The model of the rotation relies on `C06_rotation_requeue_is_asynchronous`.) -/
theorem C06_no_deadlock (sizes : List Nat) (history : List ALabel) (s : Agg)
    (h : aggRun (aggInit sizes) history = some s) (hne : sizes ≠ []) (hnd : s.done = false) :
    ∃ l s', aggStep s l = some s' := by
  have hs : s.sizes = sizes :=
    aggIsRun.inv (P := fun a => a.sizes = sizes) (fun a a' l ha hl => (aggStep_sizes a a' l hl).trans ha) history _ s rfl h
  exact agg_step_enabled s (C06_invariant sizes history s h) (aggRun_inv2 sizes history s h)
    (by rw [hs]; exact hne) hnd C06_queues_have_capacity.1 C06_queues_have_capacity.2

/-- non-vacuity: a reachable, unfinished state -/
example : ∃ s, aggRun (aggInit (List.replicate 3 1)) [.register 0, .register 1] = some s ∧ s.done = false :=
  ⟨_, rfl, rfl⟩

/-- The full property is false on the unchanged tree.  (a) A reader that registers after the
    aggregator saw its current file closed with none queued is never aggregated: two files of
    one line, the second registers late. -/
theorem C06_full_false_late_register :
    ∃ s, aggRun (aggInit [1, 1]) [.register 0, .first, .push 0, .close 0, .take, .closedDone,
        .register 1, .push 1, .close 1] = some s
      ∧ s.done = true ∧ (s.rds[1]?.map (·.consumed)) = some 0 :=
  ⟨_, rfl, rfl, rfl⟩

/-- (b) A channel in the hands of a rotation goroutine when the aggregator finishes is lost. -/
theorem C06_full_false_limbo :
    ∃ s, aggRun (aggInit [1, 0]) [.register 0, .register 1, .first, .rotate, .close 1, .closedDone,
        .push 0, .close 0, .requeue 0] = some s
      ∧ s.done = true ∧ (s.rds[0]?.map (·.consumed)) = some 0 ∧ (s.rds[0]?.map (·.pushed)) = some 1 :=
  ⟨_, rfl, rfl, rfl, rfl⟩

/-- **However simultaneously the servers deliver**, the global group is the merge of all
    partials: any two arrival orders of the same partials give the same result (count, sum,
    avg, min, max). -/
theorem C06_arrival_order_irrelevant (op : AggOp) (a b : List (Nat × Col)) (hperm : a.Perm b)
    (hop : op = .count ∨ op = .sum ∨ op = .avg ∨ op = .min ∨ op = .max) :
    clientGlobal op a = clientGlobal op b :=
  C05.colFold_perm op _ _ (hperm.map _) hop

/-- the repaired defect: a server's last partial that arrives while the global group is busy
    never reaches the result -/
theorem C06_old_noblock_loss :
    (oldClient .count {} {} [(⟨some 5, none⟩, false), (⟨some 7, none⟩, true)]).1 = ⟨some 5, none⟩
    ∧ clientGlobal .count [(0, ⟨some 5, none⟩), (0, ⟨some 7, none⟩)] = ⟨some 12, none⟩ := by
  decide +kernel

/-- the schedule of the scripted sessions (the aggregator does all it can after every reader
    step) is one of the interleavings the theorems above quantify over -/
theorem C06_scripted_schedule_is_interleaving (fuel : Nat) (s : Agg) :
    aggRun s (aggSettle fuel s []).2 = some (aggSettle fuel s []).1 :=
  aggSettle_run fuel s s [] rfl

/-- non-vacuity of `C06_partial`: a complete run with a rotation, three files -/
example : ∃ s, aggRun (aggInit [2, 1, 0]) [.register 0, .register 1, .first, .push 0, .take, .rotate, .requeue 0,
      .push 1, .take, .close 1, .closedSwitch, .push 0, .take, .register 2, .close 0, .closedSwitch, .close 2, .closedDone] = some s
    ∧ s.done = true ∧ s.nextQ = [] ∧ s.limbo = [] ∧ (s.rds.map (·.consumed)) = [2, 1, 0] :=
  ⟨_, rfl, rfl, rfl, rfl, rfl⟩

end Dtail.C06
