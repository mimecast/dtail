/-
C02 — every selected line is delivered before the session closes, at any pace.
(after the fix of flush(): the close handshake starts only when the queues are empty)
-/
import DtailModel.Lemmas.Session
import DtailModel.Lemmas.SessionLive
import DtailModel.Lemmas.SessionTerm
namespace Dtail.C02

/-- the invariant holds in every reachable state, whatever the schedule -/
theorem C02_invariant (sizes : List Nat) (history : List SLabel) (s : Sess)
    (h : sessRun (sessInit sizes) history = some s) : SessInv s :=
  sessIsRun.inv sessStep_inv history _ s (sessInit_inv sizes) h

/-- **Nothing is lost, duplicated or reordered on the way, under every schedule and every
    pacing of the consumer**: at any moment, what the client has received of a file followed by
    what is still queued of it is exactly the file's lines 1 … k-1 in order, k being the
    reader's position. -/
theorem C02_in_order_exactly_once (sizes : List Nat) (history : List SLabel) (s : Sess)
    (h : sessRun (sessInit sizes) history = some s) (c : Nat) :
    (s.delivered.filter (fun x => x.1 = c)) ++ (s.queue.filter (fun x => x.1 = c)) = linesUpTo c (nextOf s c) := by
  rw [← List.filter_append]
  exact (C02_invariant sizes history s h).lines c

/-- **Everything is delivered before the session closes** — for every schedule in which no
    command is dispatched after the session had gone idle (the recorded finding): when the
    close handshake has been delivered, every line of every dispatched command has reached the
    client, exactly once and in file order, and nothing is left in the queue. -/
theorem C02_partial (sizes : List Nat) (history : List SLabel) (s : Sess)
    (h : sessRun (sessInit sizes) history = some s)
    (hclosed : s.phase = .closed) (hlate : s.lateRecv = false)
    (c n : Nat) (hn : s.sizes[c]? = some n) (hsent : s.cmds[c]? ≠ some .notSent) (hc : c < s.cmds.length) :
    s.delivered.filter (fun x => x.1 = c) = linesUpTo c (n + 1) ∧ s.queue = [] := by
  have inv := C02_invariant sizes history s h
  have hq : s.queue = [] := inv.drained hlate (Or.inr hclosed)
  have hact : activeCount s.cmds = 0 := inv.quiet hlate (by rw [hclosed]; simp)
  have hdone : s.cmds[c]? = some .done := by
    cases hst : s.cmds[c]? with
    | none => exact absurd (List.getElem?_eq_none_iff.1 hst) (Nat.not_le_of_lt hc)
    | some st =>
      cases st with
      | notSent => exact absurd hst hsent
      | reading k => exact absurd hact (Nat.ne_of_gt (activeCount_pos_of_reading s.cmds c k hst))
      | done => rfl
  have := inv.lines c
  rw [hq, List.append_nil, nextOf, nextOfC_done _ _ _ _ hdone hn] at this
  exact ⟨this, hq⟩

/-- the `.syn` never overtakes queued lines (this is what the repaired flush() guarantees):
    when the handshake is queued or delivered and no command came late, the queue is empty -/
theorem C02_syn_after_lines (sizes : List Nat) (history : List SLabel) (s : Sess)
    (h : sessRun (sessInit sizes) history = some s) (hlate : s.lateRecv = false)
    (hp : s.phase = .synQueued ∨ s.phase = .closed) : s.queue = [] :=
  (C02_invariant sizes history s h).drained hlate hp

/-! Obligations on the source, regenerated by the fact extractor on every run: flush() is a loop
without bound, it waits on a timer created in every round (so it looks at the queues again
and again, however slowly they drain), and its only ways out are "nothing unsent" and
"session gone".  These are what the `flushDone` label of the transition system stands for:
enabled whenever the session is flushing and the queue is empty. -/

theorem C02_flush_polls_until_drained :
    Facts.flushLoopUnbounded = true ∧ Facts.flushRepollsFreshTimer = true
      ∧ Facts.flushLeavesOnlyWhenDrainedOrGone = true := by decide

theorem C02_queue_has_capacity : 0 < queueCap := by decide

/-- **The session cannot wedge** — in every reachable state of a session that has been given at
    least one command and is not closed yet, some step is enabled, under every schedule and
    every pacing of the consumer: a reader can queue a line or finish, the consumer can be
    served, the flush can complete once the queue is empty, the close handshake can be
    delivered.  Together with `C02_partial`: the only terminal state is the closed session with
    everything delivered. -/
theorem C02_no_deadlock (sizes : List Nat) (history : List SLabel) (s : Sess)
    (h : sessRun (sessInit sizes) history = some s) (hopen : s.phase ≠ .closed)
    (hsent : ∃ (c : Nat) (st : CmdSt), s.cmds[c]? = some st ∧ st ≠ CmdSt.notSent) :
    ∃ l s', sessStep s l = some s' :=
  sess_step_enabled s (C02_invariant sizes history s h) (sessRun_inv2 sizes history s h) hopen hsent
    C02_queue_has_capacity

/-- **Every schedule is finite.**  Each step of the session — dispatching a command, queueing a line,
    ending a reader, serving the consumer, completing the flush, delivering the close handshake —
    strictly decreases `sessMeasure`; so an execution from the initial state has at most
    2·(lines) + 2·(commands) + 3 steps, whatever the scheduler and the consumer do: no livelock. -/
theorem C02_every_schedule_is_finite (sizes : List Nat) (history : List SLabel) (s : Sess)
    (h : sessRun (sessInit sizes) history = some s) :
    history.length ≤ 2 * sizes.sum + 2 * sizes.length + 3 := by
  have := sessIsRun.length_le sessStep_inv sessMeasure sessStep_decreases history _ s (sessInit_inv sizes) h
  rw [sessMeasure_init] at this
  omega

/-- **"The session then ends by itself."**  An execution that cannot be continued (and in which a
    command was dispatched) has reached the closed session: with `C02_every_schedule_is_finite` every
    maximal schedule ends there, and by `C02_partial` with everything delivered. -/
theorem C02_ends_by_itself (sizes : List Nat) (history : List SLabel) (s : Sess)
    (h : sessRun (sessInit sizes) history = some s)
    (hsent : ∃ (c : Nat) (st : CmdSt), s.cmds[c]? = some st ∧ st ≠ CmdSt.notSent)
    (hstuck : ∀ l, sessStep s l = none) : s.phase = .closed := by
  by_cases hc : s.phase = .closed
  · exact hc
  · obtain ⟨l, s', hl⟩ := C02_no_deadlock sizes history s h hc hsent
    rw [hstuck l] at hl
    cases hl

/-- The full property (every line of every *requested* file is delivered before the close) is
    false on the unchanged tree: the session of an empty file and a five-line file, where the
    first command finishes before the second is dispatched, closes without the five lines. -/
theorem C02_full_false :
    ∃ s, sessRun (sessInit [0, 5]) [.recv 0, .finish 0, .flushDone, .recv 1, .deliverSyn] = some s
      ∧ s.phase = .closed ∧ s.delivered = [] ∧ s.lateRecv = true :=
  ⟨_, rfl, rfl, rfl, rfl⟩

/-- non-vacuity: a complete two-file session under an interleaved schedule meets the
    hypotheses of `C02_partial` -/
example : ∃ s, sessRun (sessInit [1, 2]) [.recv 0, .recv 1, .push 1, .push 0, .deliver, .push 1, .finish 0,
      .deliver, .finish 1, .deliver, .flushDone, .deliverSyn] = some s
      ∧ s.phase = .closed ∧ s.lateRecv = false ∧ s.delivered = [(1, 1), (0, 1), (1, 2)] :=
  ⟨_, rfl, rfl, rfl, rfl⟩

end Dtail.C02
