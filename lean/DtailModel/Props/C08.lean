/-
C08 — users read only files their permission rules allow.
-/
import DtailModel.Lemmas.Perm
import DtailModel.Lemmas.GenPerm
namespace Dtail.C08

/-- The documented meaning of a rule list on a resolved path: all applicable rules must
    compile, and the last one that matches must be an allow rule (no match: deny). -/
def specAllowed (m : MatchOracle) (path : Bytes) (rules : List Rule) : Bool :=
  rules.all (fun r => (m r.regex path).isSome) &&
  ((rules.filter (fun r => m r.regex path = some true)).getLast?.map (fun r => !r.deny) = some true)

/-- (after the fix) For every rule list — prefixed or bare, allow or deny, patterns that
    contain ':' included — every user, every path and every file system and regexp oracle:
    a file is served exactly when the user is a background-job user, or the path resolves,
    is a regular file and the last matching rule is an allow rule. -/
theorem C08_full_holds (fs : FsOracle) (m : MatchOracle) (user : Bytes) (perms : List Bytes) (path : Bytes) :
    hasFilePermission fs m user perms path = true ↔
      (user = Facts.scheduleUserBytes ∨ user = Facts.continuousUserBytes) ∨
      ∃ clean, fs.resolve path = some clean ∧ fs.osReadable clean = true ∧ fs.regular clean = true
        ∧ specAllowed m clean (perms.map parseRule) = true := by
  -- `specAllowed` is, by definition, the closed form of `iterateRules_parsed`
  have hspec (clean : Bytes) : iterateRules m READFILES clean (perms.map parseRule) false
      = specAllowed m clean (perms.map parseRule) := iterateRules_parsed m clean perms
  unfold hasFilePermission
  by_cases hu : user = Facts.scheduleUserBytes ∨ user = Facts.continuousUserBytes
  · simp [hu]
  · cases fs.resolve path <;> simp [hu, hspec]

/-- How rules are read: the prefix and the negation mark, for any pattern text. -/
theorem C08_rule_syntax (re : Bytes) (hbang : re.head? ≠ some BANG) :
    parseRule (b!"readfiles:" ++ re) = ⟨READFILES, false, re⟩ ∧
    parseRule (b!"readfiles:!" ++ re) = ⟨READFILES, true, re⟩ ∧
    (hasPrefix (b!"readfiles:") re = false → parseRule re = ⟨READFILES, false, re⟩) ∧
    (hasPrefix (b!"readfiles:") (BANG :: re) = false → parseRule (BANG :: re) = ⟨READFILES, true, re⟩) := by
  unfold parseRule
  refine ⟨?_, ?_, fun h => ?_, fun h => ?_⟩
  · rw [ruleBody_prefix]; simp [hbang]
  · rw [show b!"readfiles:!" ++ re = b!"readfiles:" ++ BANG :: re from rfl, ruleBody_prefix]; simp
  · rw [ruleBody_bare _ h]; simp [hbang]
  · rw [ruleBody_bare _ h]; simp

/-- the rule that used to be skipped: a bare deny pattern with a POSIX class -/
theorem C08_posix_class_rule :
    parseRule (b!"!^/secret/[[:alpha:]]+$") = ⟨READFILES, true, b!"^/secret/[[:alpha:]]+$"⟩ := by decide +kernel

/-- default deny: no rule, nothing served -/
theorem C08_default_deny (fs : FsOracle) (m : MatchOracle) (path : Bytes) :
    hasFilePermission fs m (b!"paul") [] path = false := by
  unfold hasFilePermission
  have : ¬ (b!"paul" = Facts.scheduleUserBytes ∨ b!"paul" = Facts.continuousUserBytes) := by decide
  simp only [this, if_false]
  cases fs.resolve path <;> simp [iterateRules]

open Dtail.Go Dtail.Gen.User in
/-- `splitPermission` and `User.iteratePaths` of the working tree are the model's `ruleBody` and `iterateRules`
    over `parseRule` (the regexp engine behind `regexp.Compile` / `MatchString` is the parameter `ext`); a compile
    error comes with the verdict `false` -/
theorem C08_generated_rules_refine_model (ext : Ext) (u : User) (path ty p : Bytes) :
    splitPermission ext p = (READFILES, ruleBody p) ∧
    (User.iteratePaths ext u path ty).2.1 = iterateRules (GenPerm.oracleOf ext) ty path (u.permissions.map parseRule) false ∧
    ((User.iteratePaths ext u path ty).2.2 ≠ none → (User.iteratePaths ext u path ty).2.1 = false) :=
  ⟨GenPerm.splitPermission_spec ext p, GenPerm.iteratePaths_refines ext u path ty, GenPerm.iteratePaths_error_denies ext u path ty⟩

open Dtail.Go Dtail.Gen.User in
/-- **the rule evaluation of the working tree is the documented meaning of a rule list**: for every rule list —
    prefixed or bare, allow or deny — and every resolved path, the translated `iteratePaths` says yes exactly when
    every rule compiles and the last rule that matches is an allow rule -/
theorem C08_generated_iteratePaths_is_spec (ext : Ext) (u : User) (clean : Bytes) :
    (User.iteratePaths ext u clean READFILES).2.1 = specAllowed (GenPerm.oracleOf ext) clean (u.permissions.map parseRule) := by
  rw [GenPerm.iteratePaths_refines]
  exact iterateRules_parsed _ clean u.permissions

open Dtail.Go Dtail.Gen.User in
/-- the statement is not empty: an allow rule, then a catch-all deny (what a revoked user has) -/
example :
    let ext : Ext := { parseFloat := fun _ => (0, none), reMatchRaw := fun re s => re.src == b!".*" || (re.src == b!"^/var/log/" && hasPrefix (b!"/var/log/") s) }
    (User.iteratePaths ext { permissions := [b!"^/var/log/", b!"!.*"] } (b!"/var/log/app.log") READFILES).2.1 = false ∧
    (User.iteratePaths ext { permissions := [b!"!.*", b!"readfiles:^/var/log/"] } (b!"/var/log/app.log") READFILES).2.1 = true := by decide +kernel

open Dtail.Go Dtail.Gen.User in
/-- **Tie G: the whole permission decision as translated from the working tree.**  `User.HasFilePermission` and
    `hasFilePermission` of internal/user/server/user.go (with `iteratePaths` and `splitPermission`), translated on this
    run; `filepath.EvalSymlinks`, `filepath.Abs`, `permissions.ToRead`, `os.Lstat` and the regexp engine are parameters.
    For every user, rule list and path and every answer of those: the file is served exactly when the user is a
    background-job user, or the path resolves, is readable and a regular file and every rule compiles and the last rule that
    matches the resolved path is an allow rule. -/
theorem C08_generated_decision_is_spec (ext : Ext) (u : User) (path : Bytes) :
    (User.HasFilePermission ext u path READFILES).2 = true ↔
      (u.Name = Facts.scheduleUserBytes ∨ u.Name = Facts.continuousUserBytes) ∨
      ∃ clean, (GenPerm.fsOf ext u.Name).resolve path = some clean ∧ (GenPerm.fsOf ext u.Name).osReadable clean = true ∧
        (GenPerm.fsOf ext u.Name).regular clean = true ∧
        specAllowed (GenPerm.oracleOf ext) clean (u.permissions.map parseRule) = true := by
  rw [GenPerm.HasFilePermission_refines]
  exact C08_full_holds _ _ _ _ _

open Dtail.Go Dtail.Gen.User in
/-- non-vacuity: an ordinary user, an allow rule that matches, a regular file — served; the same behind a failing
    `EvalSymlinks` — not served -/
example :
    let ext : Ext := { parseFloat := fun _ => (0, none), reMatchRaw := fun _ _ => true }
    let ext2 : Ext := { ext with evalSymlinks := fun p => (p, some []) }
    (User.HasFilePermission ext { Name := b!"paul", permissions := [b!"^/var/log/"] } (b!"/var/log/x") READFILES).2 = true ∧
    (User.HasFilePermission ext2 { Name := b!"paul", permissions := [b!"^/var/log/"] } (b!"/var/log/x") READFILES).2 = false := by
  decide +kernel

end Dtail.C08
