/-
C12 — the server applies exactly the filter and options the user specified.
-/
import DtailModel.Lemmas.Command
import DtailModel.Lemmas.GenOptions
import DtailModel.Lemmas.OptionOrder
import DtailModel.Lemmas.GenRegex
import DtailModel.Lemmas.GenSerialize
namespace Dtail.C12

/-- The regex text survives the server's `strings.Split(cmd, " ")` / `strings.Join(args[2:], " ")`
    whatever spaces (leading, trailing, runs) it contains. -/
theorem C12_space_join (x : Bytes) : joinByte SP (splitOnByte SP x) = x := joinByte_splitOnByte SP x

/-- what the pattern looks like on the wire: the no-op patterns are sent without text -/
def wirePattern (pattern : Bytes) (invert : Bool) : Bytes :=
  if clientFlag pattern invert = .noop then [] else pattern

/-- Serialize / Deserialize of the regex: for every pattern (any bytes) and polarity the
    server reconstructs the same flag and the same pattern bytes. -/
theorem C12_regex_roundtrip (env : Env) (pattern : Bytes) (invert : Bool)
    (hc : env.compiles (wirePattern pattern invert) = true) :
    regexDeserialize env (regexSerialize pattern invert)
      = .ok ⟨wirePattern pattern invert, clientFlag pattern invert⟩ := by
  have hf : clientFlag pattern invert ≠ .undefined := by
    unfold clientFlag; split
    · exact RFlag.noConfusion
    · split <;> exact RFlag.noConfusion
  rw [regexSerialize_eq, regexDeserialize_wire env _ hf]
  unfold wirePattern at hc ⊢
  rw [hc]
  rfl

/-- The no-op classification is harmless: a no-op regex selects every line on both sides. -/
theorem C12_noop_selects_all (e : Bool) : matchFlag .noop e = true := rfl

/-- SerializeOptions / DeserializeOptions: every combination of modes and integer values is
    decoded to the same line context and the same session modes. -/
theorem C12_options_roundtrip (env : Env) (show' : Int → Bytes) (hc : IntCodec show') (r : Req) :
    ∃ o, deserializeOptions env (optionList show' r) [] {} = .ok (o, r.ltx) ∧
      modesOf o = (r.quiet, r.plain, r.serverless) := by
  rw [← OptionOrder.optsOf_render]
  exact OptionOrder.any_order env show' hc r _ (List.Perm.refl _)

/-- **… in every order.**  `SerializeOptions` ranges over a Go map: the options reach the wire in any order.  For every
    permutation of a request's options the decoder arrives at the same line context and the same session modes
    (`OptionOrder.render` of `OptionOrder.optsOf r` in canonical order is `optionList`: `C12_options_are_the_option_list`). -/
theorem C12_options_any_order (env : Env) (show' : Int → Bytes) (hc : IntCodec show') (r : Req)
    (ys : List OptionOrder.Opt) (hp : ys.Perm (OptionOrder.optsOf r)) :
    ∃ o, deserializeOptions env (ys.map (OptionOrder.render show')) [] {} = .ok (o, r.ltx) ∧
      modesOf o = (r.quiet, r.plain, r.serverless) :=
  OptionOrder.any_order env show' hc r ys hp

theorem C12_options_are_the_option_list (show' : Int → Bytes) (r : Req) :
    (OptionOrder.optsOf r).map (OptionOrder.render show') = optionList show' r := OptionOrder.optsOf_render show' r

/-- not vacuous: a request with four options, decoded from the reversed list -/
example : (OptionOrder.optsOf ⟨b!"grep", true, false, true, ⟨2, 0, 5⟩, b!"f", b!"x", false⟩).reverse.Perm
    (OptionOrder.optsOf ⟨b!"grep", true, false, true, ⟨2, 0, 5⟩, b!"f", b!"x", false⟩) := List.reverse_perm _

/-- The whole request: what the client encodes (`makeCommands`, `SendMessage`) the server
    decodes (`handleCommand`, `readCommand.Start`) to the same command name, file, line
    context, session modes, regex flag and pattern bytes — for every regex (any bytes),
    every option combination and integer value.  (Options in the canonical order here; every other order decodes alike: `C12_options_any_order`.) -/
theorem C12_roundtrip (env : Env) (b64enc : Bytes → Bytes) (show' : Int → Bytes)
    (hc : IntCodec show') (r : Req)
    (hb64 : ∀ s, env.b64dec (b64enc s) = some s) (hb64sp : ∀ s, SP ∉ b64enc s)
    (hmode : SP ∉ r.mode ∧ COLON ∉ r.mode) (hfile : SP ∉ r.file)
    (hopts : ∀ o ∈ optionList show' r, SP ∉ o ∧ COLON ∉ o)
    (hcomp : env.compiles (wirePattern r.pattern r.invert) = true) :
    ∃ d, decodeCommand env (b!"protocol " ++ Facts.protocolCompatBytes ++ b!" base64 "
            ++ b64enc (makeCommand r (optionList show' r))) = .ok d
      ∧ d.name = r.mode ∧ d.ltx = r.ltx ∧ d.args[1]? = some r.file ∧ d.argc ≥ 4
      ∧ regexDeserialize env (joinByte SP (d.args.drop 2))
          = .ok ⟨wirePattern r.pattern r.invert, clientFlag r.pattern r.invert⟩
      ∧ (match d.options with
         | some o => modesOf o = (r.quiet, r.plain, r.serverless)
         | none => (r.quiet, r.plain, r.serverless) = (false, false, false)) := by
  obtain ⟨o, ho, hm⟩ := C12_options_roundtrip env show' hc r
  refine ⟨_, decodeCommand_sent env b64enc r _ o r.ltx ho hb64 hb64sp hmode hfile hopts, rfl, rfl, rfl, ?_, ?_, ?_⟩
  · -- the serialised regex is at least two words: the flags, a blank, the pattern
    show (splitOnByte SP (regexSerialize r.pattern r.invert)).length + 2 ≥ 4
    rw [regexSerialize_eq, splitOnByte_append_sep SP _ _ (flagName_nospace _), List.length_cons]
    have := length_splitOnByte_pos SP (wirePattern r.pattern r.invert)
    unfold wirePattern at this
    omega
  · simp only [List.drop_succ_cons, List.drop_zero, C12_space_join]
    exact C12_regex_roundtrip env r.pattern r.invert hcomp
  · by_cases hnil : optionList show' r = []
    · -- no option was sent: the modes are those of the empty option list
      rw [hnil] at ho
      obtain ⟨rfl, -⟩ := Prod.mk.inj (Outcome.ok.inj ho)
      rw [if_pos hnil]
      exact hm.symm
    · rw [if_neg hnil]
      exact hm

/-- non-vacuity: a pattern full of separators -/
example : regexDeserialize ⟨fun _ => none, fun _ => true, fun _ => none, []⟩
    (regexSerialize (b!" a  b:c;d,e%f=g ") true) = .ok ⟨b!" a  b:c;d,e%f=g ", .invert⟩ := by decide +kernel

/-- **`Regex.Match` (internal/regex, as translated from the working tree on this run) is the first flag applied to the answer
    of the regexp engine** — for every regex value, every line, every engine.  (A "fast path" that answers some expressions
    without the engine, a cache that shares flag slices between values, a flag list consulted at another position: each
    changes the translated function and this statement no longer proves.) -/
theorem C12_generated_match (ext : Go.Ext) (r : Gen.Regex.Regex) (line : Go.GoString) :
    Gen.Regex.Regex.Match ext r line = GenRegex.flagBit (Go.GoIndex.idx r.flags 0) (ext.reMatchRaw r.re line) :=
  GenRegex.Match_spec ext r line

/-- … and that reading of a flag is the model's `matchFlag` (C03) under the source's iota numbering -/
theorem C12_generated_flag_is_model_flag (engine : Bool) :
    GenRegex.flagBit Gen.Regex.Default engine = matchFlag .default engine ∧
    GenRegex.flagBit Gen.Regex.Invert engine = matchFlag .invert engine ∧
    GenRegex.flagBit Gen.Regex.Noop engine = matchFlag .noop engine ∧
    GenRegex.flagBit Gen.Regex.Undefined engine = matchFlag .undefined engine := by
  cases engine <;> decide

/-- **The regex round trip on the translated code.**  For every expression (any bytes: blanks, ':', ';', ',',
    '%', '=', non-ASCII) the regexp compiler accepts and either polarity: the filter the server rebuilds
    (`Deserialize ∘ Serialize ∘ New`) selects exactly the lines the client's filter selects, for every line and
    every regexp engine; no step reports an error.  The regexp compiler and engine are parameters. -/
theorem C12_generated_regex_roundtrip (ext : Go.Ext) (p : Go.GoString) (c : Gen.Regex.Flag)
    (hc : c = Gen.Regex.Default ∨ c = Gen.Regex.Invert)
    (hcomp : (ext.reCompile p).2 = none) (hempty : (ext.reCompile []).2 = none) (line : Go.GoString) :
    let cl := Gen.Regex.New ext p c
    let wire := Gen.Regex.Regex.Serialize ext cl.1
    let sv := Gen.Regex.Deserialize ext wire.1
    cl.2 = none ∧ wire.2 = none ∧ sv.2 = none ∧
      Gen.Regex.Regex.Match ext sv.1 line = Gen.Regex.Regex.Match ext cl.1 line :=
  GenRegex.roundtrip ext p c hc hcomp hempty line

/-- what is on the wire is the model's `regexSerialize` (the hand-written encoder of `C12_roundtrip`) -/
theorem C12_generated_wire_is_model_wire (ext : Go.Ext) (p : Go.GoString) (invert : Bool)
    (hcomp : (ext.reCompile p).2 = none) :
    (Gen.Regex.Regex.Serialize ext (Gen.Regex.New ext p (if invert then Gen.Regex.Invert else Gen.Regex.Default)).1).1
      = regexSerialize p invert := by
  -- the client's classification, with the table of no-op patterns written out as `New` tests it
  have hcf : clientFlag p invert = if p = [] ∨ p = [46] ∨ p = [46, 42] then .noop else if invert then .invert else .default := by
    unfold clientFlag
    simp [Facts.noopPatternsBytes]
  rw [GenRegex.New_spec ext p _ hcomp, regexSerialize, hcf]
  -- on either side of the test, and for either polarity, all but `p` is closed
  by_cases hn : p = [] ∨ p = [46] ∨ p = [46, 42]
  · rw [if_pos hn, if_pos hn, GenRegex.Serialize_spec ext _ rfl]
    rfl
  · rw [if_neg hn, if_neg hn, GenRegex.Serialize_spec ext _ rfl]
    cases invert <;> rfl

/-- **the option decoder of the working tree is the model's decoder**: the same line context, an option map with the
    same lookups, an error exactly where the model has one — for every option list and every behaviour of
    `base64.DecodeString` and `strconv.Atoi` (`ExtIs`: the translated code's external functions are the model's oracles) -/
theorem C12_generated_option_decoder_refines_model (ext : Go.Ext) (env : Env) (he : GenOptions.ExtIs ext env) (opts : List Bytes) :
    GenOptions.Matches (deserializeOptions env opts [] {}) (Gen.Config.DeserializeOptions ext opts) :=
  GenOptions.DeserializeOptions_refines ext env he opts

/-- **… and it decodes every order of a request's options to the request** (`C12_options_any_order` carried over to the
    translated code) -/
theorem C12_generated_options_any_order (ext : Go.Ext) (env : Env) (he : GenOptions.ExtIs ext env) (show' : Int → Bytes)
    (hc : IntCodec show') (r : Req) (ys : List OptionOrder.Opt) (hp : ys.Perm (OptionOrder.optsOf r)) :
    ∃ m gl, Gen.Config.DeserializeOptions ext (ys.map (OptionOrder.render show')) = Outcome.ok (m, gl, none) ∧
      GenOptions.ltxOf gl = r.ltx ∧ GenOptions.modesOfMap m = (r.quiet, r.plain, r.serverless) :=
  GenOptions.generated_any_order ext env he show' hc r ys hp

/-- **The options a client serialises are the options the server decodes — both ends as translated from the working tree.**
    `Args.SerializeOptions` (internal/config/args.go) collects the options in a Go map and ranges over it; assuming only that
    the iteration visits a permutation of the entries, the serialised text is the ':'-join of the request's rendered options
    in some order `ys`, and the translated `DeserializeOptions` decodes exactly that list to the request's line context and
    session modes — for every option combination, every integer value, every iteration order, every behaviour of
    `base64` / `strconv.Atoi` that the codec hypothesis allows. -/
theorem C12_generated_client_options_reach_server (ext : Go.Ext) (env : Env) (he : GenOptions.ExtIs ext env)
    (hc : IntCodec ext.fmtInt) (hperm : ∀ l, (ext.mapOrder l).Perm l) (a : Gen.ClientArgs.Args) :
    ∃ ys : List OptionOrder.Opt, ys.Perm (OptionOrder.optsOf (GenSerialize.reqOf a)) ∧
      (Gen.ClientArgs.Args.SerializeOptions ext a).2 = joinByte COLON (ys.map (OptionOrder.render ext.fmtInt)) ∧
      ∃ m gl, Gen.Config.DeserializeOptions ext (ys.map (OptionOrder.render ext.fmtInt)) = Outcome.ok (m, gl, none) ∧
        GenOptions.ltxOf gl = (GenSerialize.reqOf a).ltx ∧
        GenOptions.modesOfMap m = (a.Quiet, a.Plain, a.Serverless) := by
  obtain ⟨ys, hys, hs⟩ := GenSerialize.SerializeOptions_spec ext hperm a
  obtain ⟨m, gl, hd, hl, hm⟩ := GenOptions.generated_any_order ext env he ext.fmtInt hc (GenSerialize.reqOf a) ys hys
  exact ⟨ys, hys, by rw [hs], m, gl, hd, hl, hm⟩

/-- **… on the bytes of the wire.**  The server cuts the option text at ':' (`strings.Split(args[0], ":")[1:]`).  When the
    request has at least one option and `fmt.Sprintf("%d", n)` never prints a ':' (it prints digits and a sign), cutting the
    text the translated client wrote gives back exactly the rendered options, so the translated decoder applied to the cut
    text arrives at the request. -/
theorem C12_generated_client_options_on_the_wire (ext : Go.Ext) (env : Env) (he : GenOptions.ExtIs ext env)
    (hc : IntCodec ext.fmtInt) (hperm : ∀ l, (ext.mapOrder l).Perm l) (hnocolon : ∀ n, COLON ∉ ext.fmtInt n)
    (a : Gen.ClientArgs.Args) (hne : OptionOrder.optsOf (GenSerialize.reqOf a) ≠ []) :
    ∃ m gl, Gen.Config.DeserializeOptions ext (splitOnByte COLON (Gen.ClientArgs.Args.SerializeOptions ext a).2)
        = Outcome.ok (m, gl, none) ∧
      GenOptions.ltxOf gl = (GenSerialize.reqOf a).ltx ∧
      GenOptions.modesOfMap m = (a.Quiet, a.Plain, a.Serverless) := by
  obtain ⟨ys, hys, hs, m, gl, hd, hl, hm⟩ := C12_generated_client_options_reach_server ext env he hc hperm a
  refine ⟨m, gl, ?_, hl, hm⟩
  have hyne : ys.map (OptionOrder.render ext.fmtInt) ≠ [] := fun h =>
    hne ((List.map_eq_nil_iff.1 h ▸ hys).symm.eq_nil)
  have hfree : ∀ x ∈ ys.map (OptionOrder.render ext.fmtInt), COLON ∉ x := fun x hx => by
    obtain ⟨o, _, rfl⟩ := List.mem_map.1 hx
    exact OptionOrder.colon_notMem_render _ hnocolon o
  rw [hs, splitOnByte_joinByte COLON _ hyne hfree]
  exact hd

/-- non-vacuity: quiet, max 5 and before 2, the map visited backwards -/
example :
    let ext : Go.Ext := { parseFloat := fun _ => (0, none), mapOrder := List.reverse, fmtInt := fun n => if n = 5 then b!"5" else b!"2" }
    (Gen.ClientArgs.Args.SerializeOptions ext { LContext := ⟨0, 2, 5⟩, Quiet := true }).2 = b!"before=2:max=5:quiet=true" := by
  decide +kernel

end Dtail.C12
