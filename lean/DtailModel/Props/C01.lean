/-
C01 — dcat reproduces file content byte for byte.
-/
import DtailModel.Lemmas.Wire
import DtailModel.Lemmas.Fast
import DtailModel.Lemmas.GenReader
import DtailModel.Lemmas.GenClient
namespace Dtail.C01

/-- The property at full strength: for every content and every MaxLineLength ≥ 1, plain dcat
    prints the content with newlines inserted after each run of `m` non-newline bytes. -/
def C01_full : Prop := ∀ (m : Nat) (bs : Bytes), 1 ≤ m → dcatPlain m bs = insertNL m 0 bs

/-- The reader alone (no wire) satisfies the property for every content. -/
theorem C01_reader (m : Nat) (bs : Bytes) : (readLines m bs).flatten = insertNL m 0 bs :=
  readLines_flatten m bs

/-- Every raw line has at most one newline, at its end, and the last may lack one. -/
theorem C01_reader_lines_wf (m : Nat) (bs : Bytes) : ∀ l ∈ readLines m bs, LineWF l :=
  readLines_wf m bs

/-- **Tie G: the server's byte-wise reader as translated from the working tree sends the model's lines.**  `readFile.read`,
    `handleReadByte`, `handleReadError` of internal/io/fs/readfile.go, translated on this run (the reader is the bytes it has
    not delivered yet; the context is never cancelled and the consumer takes every line): for every file content `bs`, a
    reader that does not wait at the end of the file (cat, grep, mapreduce), started with nothing sent and fuel for the
    bytes, returns no error, never panics, and has handed to the filter exactly `readLines m bs` — whose concatenation is the
    file with a newline after each run of `m` bytes (`C01_reader`). -/
theorem C01_generated_reader_sends_model_lines (ext : Go.Ext) (m : Nat) (hm : ext.maxLineLength = (m : Int))
    (f : Gen.Reader.readFile) (hs : f.seekEOF = false) (hr : f.rawLines = []) (fd bs : Bytes) (hf : bs.length < ext.fuel) :
    ∃ f', Gen.Reader.readFile.read ext f () fd bs () () = Outcome.ok (f', none) ∧
      f'.rawLines = readLines m bs ∧ f'.rawLines.flatten = insertNL m 0 bs := by
  obtain ⟨f', h1, h2⟩ := GenReader.read_refines ext m hm f hs hr fd bs hf
  exact ⟨f', h1, h2, by rw [h2]; exact readLines_flatten m bs⟩

/-- one byte of the translated reader is one `stepByte` of the model -/
theorem C01_generated_byte_step (ext : Go.Ext) (m : Nat) (hm : ext.maxLineLength = (m : Int)) (f : Gen.Reader.readFile)
    (b : UInt8) (msg : Bytes) :
    ∃ f' msg', Gen.Reader.readFile.handleReadByte ext f () b () (msg ++ [b]) = (f', Gen.Reader.nothing, msg') ∧
      (⟨msg', f'.rawLines⟩ : RS) = stepByte m ⟨msg, f.rawLines⟩ b ∧ f'.seekEOF = f.seekEOF :=
  GenReader.handleReadByte_spec ext m hm f b msg

/-- **Tie G: the client's `Write` as translated from the working tree is the model's client.**  `baseHandler.Write`,
    `handleMessage`, `handleHiddenMessage` of internal/clients/handlers/basehandler.go, translated on this run (what
    `dlog.Client.Raw` prints, what `SendMessage` is started with and every `Shutdown` are kept): for every handler state and
    every chunk of bytes from the server, `Write` takes all of them, never panics (`message[0]` is guarded by the length
    test), leaves the model's receive buffer, and has printed exactly the model's visible messages, whole and in order —
    whatever the chunking, since the model is a fold over the bytes (`C01_chunking`). -/
theorem C01_generated_client_is_model (ext : Go.Ext) (h : Gen.Client.baseHandler) (p : Bytes) :
    ∃ h', Gen.Client.baseHandler.Write ext h p = Outcome.ok (h', (p.length : Int), none) ∧
      h'.receiveBuf = (clientFeed ⟨h.receiveBuf, []⟩ p).buf ∧
      (h'.printed.flatten = h.printed.flatten ++ printed (clientFeed ⟨h.receiveBuf, []⟩ p).msgs) := by
  obtain ⟨h', h1, h2, h3, _, _⟩ := GenClient.Write_refines ext h p
  refine ⟨h', h1, h2, ?_⟩
  rw [h3, List.flatten_append]
  rfl

/-- the close handshake on the translated client: every hidden `.syn close connection` message is answered with one
    `.ack close connection` and one shutdown, and nothing else is ever sent -/
theorem C01_generated_client_close_handshake (ext : Go.Ext) (h : Gen.Client.baseHandler) (p : Bytes) :
    ∃ h', Gen.Client.baseHandler.Write ext h p = Outcome.ok (h', (p.length : Int), none) ∧
      h'.sent = h.sent ++ (GenClient.syns (clientFeed ⟨h.receiveBuf, []⟩ p).msgs).map (fun _ => Gen.Client.lit_1) ∧
      h'.shutdowns.length = h.shutdowns.length + (GenClient.syns (clientFeed ⟨h.receiveBuf, []⟩ p).msgs).length := by
  obtain ⟨h', h1, _, _, h4, h5⟩ := GenClient.Write_refines ext h p
  exact ⟨h', h1, h4, h5⟩

/-- non-vacuity: two chunks, a message split between them, a hidden message, a close request -/
example :
    let ext : Go.Ext := { parseFloat := fun _ => (0, none) }
    (match Gen.Client.baseHandler.Write ext {} (b!"ab") with
      | .ok (h, _, _) => (match Gen.Client.baseHandler.Write ext h ([99, DELIM] ++ b!".x" ++ [DELIM] ++ b!".syn close connection" ++ [DELIM] ++ b!"d\n") with
        | .ok (h, _, _) => (h.printed, h.sent.length, h.shutdowns.length)
        | _ => ([], 0, 0))
      | _ => ([], 0, 0)) = ([b!"abc", b!"d\n"], 1, 1) := by decide +kernel

/-- non-vacuity: a line longer than the limit and an unterminated last line -/
example :
    let ext : Go.Ext := { parseFloat := fun _ => (0, none), maxLineLength := 3, fuel := 16 }
    (match Gen.Reader.readFile.read ext {} () [] (b!"abcde\nxy") () () with
      | .ok (f, none) => f.rawLines
      | _ => []) = [b!"abc\n", b!"de\n", b!"xy"] := by decide +kernel

/-- Transport chunk boundaries are irrelevant to the client. -/
theorem C01_chunking (s : CS) (a b : Bytes) :
    clientFeed s (a ++ b) = clientFeed (clientFeed s a) b := clientFeed_append s a b

/-- Outside the two remaining finding signatures the property holds for every content
    (after the fix of the transport-buffer truncation no line length is excluded). -/
theorem C01_partial (m : Nat) (bs : Bytes)
    (h1 : sigDelim bs = false) (h2 : sigDot m bs = false) :
    dcatPlain m bs = insertNL m 0 bs := by
  have hd : DELIM ∉ bs := by simpa [sigDelim] using h1
  have hdot : ∀ l ∈ readLines m bs, l.head? ≠ some DOT := fun l hl e =>
    List.any_eq_false.1 h2 l hl (decide_eq_true e)
  have hgood : ∀ l ∈ readLines m bs, GoodLine l := fun l hl =>
    ⟨readLines_wf m bs l hl, readLines_noDelim m bs hd l hl, hdot l hl⟩
  unfold dcatPlain
  rw [plain_frames, (pipeline_plain _ [] hgood).2, readLines_flatten]
  rfl

/-- However the transport buffer cuts a frame into pieces, the client receives the frame:
    the successive `Read(p)` results concatenate to it (this is what the fix restored). -/
theorem C01_read_pieces (bufLen : Nat) (hb : 0 < bufLen) (frame : Bytes) :
    (readPieces bufLen frame.length frame).flatten = frame :=
  readPieces_flatten bufLen hb frame frame.length (Nat.le_refl _)

theorem C01_witness_delim : dcatPlain 8 [97, DELIM, 98, NL] = [97, 98, NL] := by decide +kernel

/-- The unchanged protocol still violates the full property: two kernel-checked witnesses. -/
theorem C01_full_false : ¬ C01_full := fun h =>
  absurd ((h 8 [97, DELIM, 98, NL] (by decide)).symm.trans C01_witness_delim) (by decide)

/-- ".x\ny\n" prints "y\n" -/
theorem C01_witness_dot : dcatPlain 8 (b!".x\ny\n") = b!"y\n" := by decide +kernel
/-- the repaired defect: "abcdef\nz\n" through a 4-byte buffer printed "abcdz\n" -/
theorem C01_old_truncation : dcatPlainOld 8 4 (b!"abcdef\nz\n") = b!"abcdz\n" := by decide +kernel

/-- Non-vacuity: a non-trivial content meets every hypothesis of `C01_partial`. -/
example : sigDelim (b!"ab\n\ncdefghijkl") = false ∧ sigDot 4 (b!"ab\n\ncdefghijkl") = false := by decide +kernel

/-- the driver's linear-time reader and client are the model's (the differential run on long
    lines uses them) -/
theorem C01_driver_fast_versions (m : Nat) (bs : Bytes) :
    readLinesF m bs = readLines m bs ∧ clientMsgsF bs = (clientFeed ⟨[], []⟩ bs).msgs :=
  ⟨readLinesF_eq m bs, clientMsgsF_eq bs⟩

end Dtail.C01
