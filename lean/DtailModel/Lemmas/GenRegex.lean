/-
internal/regex (regex.go, flag.go; `Gen.Regex`), stated on the translated functions with no hand-written model between: what
`Match` computes, what `New` / `Serialize` / `Deserialize` build, and the round trip C12 is about — the filter the server decodes
selects the same lines as the one the client built.  `regexp.Compile` and `(*Regexp).Match` are `ext.reCompile`, `ext.reMatchRaw`.
-/
import DtailModel.Generated.Code
import DtailModel.Lemmas.GoRT
import DtailModel.Lemmas.GoStr
namespace Dtail.GenRegex
open Dtail Dtail.Go Dtail.Gen.Regex

def flagBit (c : Flag) (engine : Bool) : Bool :=
  if c = Default then engine else if c = Invert then !engine else if c = Noop then true else false

/-- of several flags on the wire only the first decides -/
theorem Match_spec (ext : Ext) (r : Regex) (line : GoString) :
    Regex.Match ext r line = flagBit (GoIndex.idx r.flags 0) (ext.reMatchRaw r.re line) := by
  simp only [Regex.Match, flagBit, beq_iff_eq]

/-- `Flag.String` without its `ext`, at which it does not look -/
def flagName (c : Flag) : GoString := Flag.String ({ parseFloat := fun _ => (0, none) } : Ext) c

theorem flagString_indep (ext : Ext) (c : Flag) : Flag.String ext c = flagName c := rfl

def RealFlag (c : Flag) : Prop := c = Default ∨ c = Invert ∨ c = Noop

theorem NewFlag_String (ext : Ext) (c : Flag) (h : RealFlag c) : NewFlag ext (flagName c) = (c, none) := by
  rcases h with rfl | rfl | rfl <;> rfl

theorem flagName_nosep (c : Flag) : (32 : UInt8) ∉ flagName c ∧ (58 : UInt8) ∉ flagName c ∧ (44 : UInt8) ∉ flagName c := by
  -- each of the four names is a word of letters
  let P := fun (n : GoString) => (32 : UInt8) ∉ n ∧ (58 : UInt8) ∉ n ∧ (44 : UInt8) ∉ n
  exact ite_all P (fun _ => by decide) fun _ => ite_all P (fun _ => by decide) fun _ =>
    ite_all P (fun _ => by decide) fun _ => by decide

theorem new_spec (ext : Ext) (w : GoString) (flags : List Flag) (hne : flags ≠ []) (hc : (ext.reCompile w).2 = none) :
    Gen.Regex.new ext w flags = ({ regexStr := w, re := (ext.reCompile w).1, flags := flags, initialized := true }, none) := by
  unfold Gen.Regex.new
  rw [if_neg (by have := List.length_pos_iff.2 hne; guard_tac),
    show ext.reCompile w = ((ext.reCompile w).1, none) from Prod.ext rfl hc]
  rfl

/-- the no-op patterns are `""`, `"."` and `".*"` -/
theorem New_spec (ext : Ext) (p : GoString) (c : Flag) (hc : (ext.reCompile p).2 = none) :
    New ext p c =
      if p = [] ∨ p = [46] ∨ p = [46, 42] then (NewNoop ext, none)
      else ({ regexStr := p, re := (ext.reCompile p).1, flags := [c], initialized := true }, none) := by
  rw [New, new_spec ext p [c] (List.cons_ne_nil _ _) hc]
  simp only [Bool.or_eq_true, beq_iff_eq, or_assoc]

/-- the wire form: `regex:<flag names joined by ','> <expression>` -/
theorem Serialize_spec (ext : Ext) (r : Regex) (hi : r.initialized = true) :
    Regex.Serialize ext r =
      (([114, 101, 103, 101, 120, 58] : GoString) ++ joinByte 44 (r.flags.map flagName) ++ [32] ++ r.regexStr, none) := by
  unfold Regex.Serialize
  rw [goRange_fold _ _ _ _ (fun flags flag => flags ++ [Flag.String ext flag]) (fun _ _ => rfl), foldl_snoc, hi]
  rfl

theorem deserialize_loop (ext : Ext) (codes : List Flag) (hreal : ∀ c ∈ codes, RealFlag c) (acc : List Flag)
    (after : List Flag → Regex × GoErr) :
    goRange (codes.map flagName) acc
      (fun flags flagStr =>
        let (_t2, _t3) := NewFlag ext flagStr
        let flag := _t2
        let err := _t3
        if (err != none) then LoopStep.next flags else
          let flags := flags ++ [flag]
          LoopStep.next flags) after = after (acc ++ codes) := by
  induction codes generalizing acc with
  | nil => simp [goRange]
  | cons c cs ih =>
    rw [List.map_cons, goRange_cons]
    rw [NewFlag_String ext c (hreal c List.mem_cons_self)]
    exact (ih (fun x hx => hreal x (List.mem_cons_of_mem _ hx)) (acc ++ [c])).trans (by rw [List.append_assoc]; rfl)

/-- `regex:<flag names joined by ','>` -/
def flagsPart (codes : List Flag) : GoString := ([114, 101, 103, 101, 120, 58] : GoString) ++ joinByte 44 (codes.map flagName)

theorem names_nosep (codes : List Flag) :
    ∀ y ∈ codes.map flagName, (32 : UInt8) ∉ y ∧ (58 : UInt8) ∉ y ∧ (44 : UInt8) ∉ y := by
  intro y hy
  obtain ⟨c, _, rfl⟩ := List.mem_map.1 hy
  exact flagName_nosep c

theorem flagsPart_nospace (codes : List Flag) : (32 : UInt8) ∉ flagsPart codes :=
  List.not_mem_append (by decide) (not_mem_joinByte 32 44 _ (by decide) fun y hy => (names_nosep codes y hy).1)

theorem names_nocolon (codes : List Flag) : (58 : UInt8) ∉ joinByte 44 (codes.map flagName) :=
  not_mem_joinByte 58 44 _ (by decide) fun y hy => (names_nosep codes y hy).2.1

/-- `w` is any bytes, blanks included: the wire form is cut at its first blank, and `flagsPart` holds none -/
theorem Deserialize_spec (ext : Ext) (codes : List Flag) (hne : codes ≠ []) (hreal : ∀ c ∈ codes, RealFlag c) (w : GoString) :
    Deserialize ext (flagsPart codes ++ [32] ++ w) = Gen.Regex.new ext w codes := by
  unfold Deserialize
  have hsplit : splitN 32 2 (flagsPart codes ++ [32] ++ w) = [flagsPart codes, w] := by
    rw [List.append_assoc]
    exact splitN2_append_sep 32 _ _ (flagsPart_nospace codes)
  have hsplit2 : splitN 58 2 (flagsPart codes) = [b!"regex", joinByte 44 (codes.map flagName)] :=
    splitN2_append_sep 58 (b!"regex") _ (by decide)
  have hnames : splitOnByte 44 (joinByte 44 (codes.map flagName)) = codes.map flagName :=
    splitOnByte_joinByte 44 _ (by simpa using hne) fun y hy => (names_nosep codes y hy).2.2
  -- the tests and index expressions between these three steps evaluate
  have hlen : decide ((GoLen.len [flagsPart codes, w] : Int) < 2) = false := rfl
  have hi0 : (GoIndex.idx [flagsPart codes, w] (0 : Int) : GoString) = flagsPart codes := rfl
  have hi1 : (GoIndex.idx [flagsPart codes, w] (1 : Int) : GoString) = w := rfl
  have hpre : hasPrefix (b!"regex") (flagsPart codes) = true := rfl
  have hcolon : List.contains (flagsPart codes) (58 : UInt8) = true := rfl
  have hi1' : (GoIndex.idx [b!"regex", joinByte 44 (codes.map flagName)] (1 : Int) : GoString)
      = joinByte 44 (codes.map flagName) := rfl
  simp only [hsplit, hlen, hi0, hi1, hpre, hcolon, hsplit2, hi1', hnames, Bool.false_eq_true, if_false, Bool.not_true, if_true]
  exact deserialize_loop ext codes hreal [] (fun flags => Gen.Regex.new ext w flags)

theorem Deserialize_Serialize (ext : Ext) (r : Regex) (hi : r.initialized = true) (hne : r.flags ≠ [])
    (hreal : ∀ c ∈ r.flags, RealFlag c) (hc : (ext.reCompile r.regexStr).2 = none) :
    (Regex.Serialize ext r).2 = none ∧
      Deserialize ext (Regex.Serialize ext r).1 = ({ r with re := (ext.reCompile r.regexStr).1 }, none) := by
  rw [Serialize_spec ext r hi]
  refine ⟨rfl, ?_⟩
  show Deserialize ext (flagsPart r.flags ++ [32] ++ r.regexStr) = _
  rw [Deserialize_spec ext r.flags hne hreal, new_spec ext _ _ hne hc, ← hi]

/-- The round trip of C12: for every expression `p` (any bytes) that the regexp compiler accepts and either polarity, the filter
    the server rebuilds from the wire selects exactly the lines the client's own filter selects, and no error occurs on the way.
    `hempty`: for a no-op filter the server compiles the empty expression. -/
theorem roundtrip (ext : Ext) (p : GoString) (c : Flag) (hc : c = Default ∨ c = Invert)
    (hcomp : (ext.reCompile p).2 = none) (hempty : (ext.reCompile []).2 = none) (line : GoString) :
    let cl := New ext p c
    let wire := Regex.Serialize ext cl.1
    let sv := Deserialize ext wire.1
    cl.2 = none ∧ wire.2 = none ∧ sv.2 = none ∧ Regex.Match ext sv.1 line = Regex.Match ext cl.1 line := by
  rw [New_spec ext p c hcomp]
  by_cases hnoop : p = [] ∨ p = b!"." ∨ p = b!".*"
  · -- the no-op patterns: both sides select every line
    rw [if_pos hnoop]
    obtain ⟨hw, hs⟩ := Deserialize_Serialize ext (NewNoop ext) rfl (List.cons_ne_nil _ _)
      (fun x hx => by rw [List.mem_singleton.1 hx]; exact .inr (.inr rfl)) hempty
    show _ ∧ _ ∧ (Deserialize ext (Regex.Serialize ext (NewNoop ext)).1).2 = none ∧
      Regex.Match ext (Deserialize ext (Regex.Serialize ext (NewNoop ext)).1).1 line = _
    rw [hs, Match_spec, Match_spec]
    exact ⟨rfl, hw, rfl, rfl⟩
  · rw [if_neg hnoop]
    obtain ⟨hw, hs⟩ := Deserialize_Serialize ext { regexStr := p, re := (ext.reCompile p).1, flags := [c], initialized := true }
      rfl (List.cons_ne_nil _ _) (fun x hx => by rw [List.mem_singleton.1 hx]; exact hc.elim .inl (.inr ∘ .inl)) hcomp
    show _ ∧ _ ∧ (Deserialize ext (Regex.Serialize ext _).1).2 = none ∧
      Regex.Match ext (Deserialize ext (Regex.Serialize ext _).1).1 line = _
    rw [hs]
    exact ⟨rfl, hw, rfl, rfl⟩

end Dtail.GenRegex
