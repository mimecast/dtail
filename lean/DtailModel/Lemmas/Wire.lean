import DtailModel.Model.Wire
import DtailModel.Lemmas.Reader
namespace Dtail

theorem delim_ne_nl : DELIM ≠ NL := by decide
theorem delim_ne_dot : DELIM ≠ DOT := by decide

theorem clientByte_nl (s : CS) : clientByte s NL = ⟨[], s.msgs ++ [s.buf ++ [NL]]⟩ := if_pos rfl

theorem clientByte_delim (s : CS) : clientByte s DELIM = ⟨[], s.msgs ++ [s.buf]⟩ := rfl

theorem clientByte_other (s : CS) (b : UInt8) (h1 : b ≠ NL) (h2 : b ≠ DELIM) :
    clientByte s b = ⟨s.buf ++ [b], s.msgs⟩ := by
  rw [clientByte, if_neg h1, if_neg h2]

theorem clientFeed_cons (s : CS) (b : UInt8) (bs : Bytes) :
    clientFeed s (b :: bs) = clientFeed (clientByte s b) bs := rfl

theorem clientFeed_append (s : CS) (a b : Bytes) :
    clientFeed s (a ++ b) = clientFeed (clientFeed s a) b := List.foldl_append

theorem clientFeed_plain (bs : Bytes) (buf : Bytes) (msgs : List Bytes)
    (hnl : NL ∉ bs) (hd : DELIM ∉ bs) :
    clientFeed ⟨buf, msgs⟩ bs = ⟨buf ++ bs, msgs⟩ := by
  induction bs generalizing buf with
  | nil => simp [clientFeed]
  | cons b bs ih =>
    rw [clientFeed_cons, clientByte_other _ b (fun e => hnl (e ▸ List.mem_cons_self)) (fun e => hd (e ▸ List.mem_cons_self)),
      ih _ (fun h => hnl (List.mem_cons_of_mem _ h)) (fun h => hd (List.mem_cons_of_mem _ h))]
    simp

theorem clientFeed_frame (pre l : Bytes) (msgs : List Bytes)
    (hp1 : NL ∉ pre) (hp2 : DELIM ∉ pre) (hwf : LineWF l) (hd : DELIM ∉ l) :
    ∃ ms, clientFeed ⟨[], msgs⟩ (pre ++ l ++ [DELIM]) = ⟨[], msgs ++ ms⟩
      ∧ (ms = [pre ++ l, []] ∨ ms = [pre ++ l]) := by
  rcases hwf with ⟨body, rfl, hb⟩ | ⟨hnl, _⟩
  · have hdb : DELIM ∉ body := fun h => hd (List.mem_append_left _ h)
    refine ⟨_, ?_, .inl rfl⟩
    rw [show pre ++ (body ++ [NL]) ++ [DELIM] = (pre ++ body) ++ [NL, DELIM] by simp, clientFeed_append,
      clientFeed_plain _ _ _ (List.not_mem_append hp1 hb) (List.not_mem_append hp2 hdb)]
    simp [clientFeed, clientByte_nl, clientByte_delim]
  · refine ⟨_, ?_, .inr rfl⟩
    rw [clientFeed_append, clientFeed_plain _ _ _ (List.not_mem_append hp1 hnl) (List.not_mem_append hp2 hd)]
    simp [clientFeed, clientByte_delim]

theorem printed_append (a b : List Bytes) : printed (a ++ b) = printed a ++ printed b := by
  simp [printed]

theorem readLines_noDelim (m : Nat) (bs : Bytes) (h : DELIM ∉ bs) :
    ∀ l ∈ readLines m bs, DELIM ∉ l := by
  intro l hl hx
  have : DELIM ∈ (readLines m bs).flatten := List.mem_flatten.2 ⟨l, hl, hx⟩
  rw [readLines_flatten] at this
  exact (mem_insertNL _ _ _ _ this).elim h delim_ne_nl

theorem plain_frames (id : Bytes) (raw : List Bytes) :
    (catLines id raw).map (frameOf true []) = raw.map (· ++ [DELIM]) := by
  rw [catLines, List.map_map]
  calc _ = raw.zipIdx.map ((· ++ [DELIM]) ∘ Prod.fst) := List.map_congr_left fun x _ => by simp [frameOf]
    _ = _ := by rw [← List.map_map, List.zipIdx_map_fst]

/-- A raw line that survives the plain wire unchanged. -/
def GoodLine (l : Bytes) : Prop :=
  LineWF l ∧ DELIM ∉ l ∧ l.head? ≠ some DOT

theorem pipeline_plain (lines : List Bytes) (msgs : List Bytes)
    (hgood : ∀ l ∈ lines, GoodLine l) :
    (clientFeed ⟨[], msgs⟩ (lines.map (fun c => c ++ [DELIM])).flatten).buf = [] ∧
    printed (clientFeed ⟨[], msgs⟩ (lines.map (fun c => c ++ [DELIM])).flatten).msgs
      = printed msgs ++ lines.flatten := by
  induction lines generalizing msgs with
  | nil => simp [clientFeed]
  | cons l ls ih =>
    obtain ⟨hwf, hd, hdot⟩ := hgood l List.mem_cons_self
    obtain ⟨ms, hfeed, hms⟩ := clientFeed_frame [] l msgs List.not_mem_nil List.not_mem_nil hwf hd
    obtain ⟨ih1, ih2⟩ := ih (msgs ++ ms) (fun x hx => hgood x (List.mem_cons_of_mem _ hx))
    rw [List.nil_append] at hfeed hms
    rw [List.map_cons, List.flatten_cons, clientFeed_append, hfeed]
    refine ⟨ih1, ?_⟩
    -- the frame's one or two messages print as the line: an empty message prints as nothing
    have hp : printed ms = l := by
      have hnh : isHidden l = false := by simpa [isHidden] using hdot
      have hne : isHidden ([] : Bytes) = false := rfl
      rcases hms with rfl | rfl <;> simp [printed, hnh, hne]
    rw [ih2, printed_append, hp]; simp

theorem readPieces_flatten (bufLen : Nat) (hb : 0 < bufLen) (bs : Bytes) (fuel : Nat) (hf : bs.length ≤ fuel) :
    (readPieces bufLen fuel bs).flatten = bs := by
  fun_induction readPieces bufLen fuel bs with
  | case1 bs => exact (List.eq_nil_of_length_eq_zero (Nat.le_zero.1 hf)).symm
  | case2 => rfl
  | case3 _ _ _ h0 => exact absurd h0 (Nat.ne_of_gt hb)
  | case4 fuel bs _ _ ih =>
    -- a piece is not empty, so the rest is shorter and the fuel lasts
    have hrest : (bs.drop bufLen).length ≤ fuel := by rw [List.length_drop]; omega
    rw [List.flatten_cons, ih hrest, List.take_append_drop]

end Dtail
