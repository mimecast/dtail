/-
Tie G for the byte-wise line assembler: `readFile.read`, `handleReadByte`, `handleReadError` of
internal/io/fs/readfile.go as translated from the working tree on this run (`Generated/Code.lean`, namespace `Gen.Reader`).
In the translation a `*bufio.Reader` is the bytes it has not delivered yet, what is sent on `rawLines` is kept in the
receiver, and the environment is fixed: the context is never cancelled, no truncation check is due, the consumer of
`rawLines` takes every line (a `select` takes its `default`, or its only send).  The theorem says that for a reader that does
not wait at the end of the file (`seekEOF = false`: cat, grep, mapreduce) the lines sent are the model's `readLines`.
-/
import DtailModel.Generated.Code
import DtailModel.Lemmas.GoRT
import DtailModel.Lemmas.Reader
namespace Dtail.GenReader
open Dtail Dtail.Go Dtail.Gen.Reader

/-- the body of the translated `read` loop, as the translator emitted it -/
def readBody (ext : Ext) (ctx : Unit) (fd : GoString) (rawLines truncate : Unit) :
    readFile × GoString × Int × GoString → LoopStep (Outcome (readFile × GoErr)) (readFile × GoString × Int × GoString) :=
  fun (f, message, offset, reader) =>
    let (_t1, _e1, reader) := goReadByte reader
    let b := _t1
    let err := _e1
    if (err != none) then
      let (_r2, _t3, _t4) := readFile.handleReadError ext f ctx err fd rawLines truncate message
      let f := _r2
      let status := _t3
      let err_5 := _t4
      if (abortReading == status) then
        LoopStep.ret (Outcome.ok (f, err_5))
      else
        LoopStep.next (f, message, offset, reader)
    else
      let offset := (offset + 1)
      let message := message ++ [b]
      let (_r6, _t7, _t8) := readFile.handleReadByte ext f ctx b rawLines message
      let f := _r6
      let status := _t7
      let newMessage := _t8
      if (status == abortReading) then
        LoopStep.ret (Outcome.ok (f, none))
      else
        let message := newMessage
        LoopStep.next (f, message, offset, reader)

/-- the translated `read` is the loop over this body (checked by `rfl`: the copy above is the generated text) -/
theorem read_eq (ext : Ext) (f : readFile) (ctx : Unit) (fd reader : GoString) (rawLines truncate : Unit) :
    readFile.read ext f ctx fd reader rawLines truncate =
      goWhile ext.fuel (f, ([] : GoString), (0 : Int), reader) (fun _ => true) (readBody ext ctx fd rawLines truncate)
        (fun _ => Outcome.panic "unreachable") (Outcome.panic "out of fuel") := rfl

/-- one byte: `message.WriteByte(b)` and `handleReadByte` are the model's `stepByte` -/
theorem handleReadByte_spec (ext : Ext) (m : Nat) (hm : ext.maxLineLength = (m : Int)) (f : readFile) (b : UInt8)
    (msg : GoString) :
    ∃ f' msg', readFile.handleReadByte ext f () b () (msg ++ [b]) = (f', nothing, msg') ∧
      (⟨msg', f'.rawLines⟩ : RS) = stepByte m ⟨msg, f.rawLines⟩ b ∧ f'.seekEOF = f.seekEOF := by
  unfold readFile.handleReadByte
  -- the Go test `message.Len() >= MaxLineLength`, on the message with the byte already written
  have hlen : decide ((GoLen.len (msg ++ [b]) : Int) ≥ ext.maxLineLength) = true ↔ m ≤ msg.length + 1 := by
    rw [hm, decide_eq_true_eq, show (GoLen.len (msg ++ [b]) : Int) = ((msg.length + 1 : Nat) : Int) from
      congrArg Int.ofNat List.length_append]
    exact Int.ofNat_le
  by_cases hb : b = NL
  · subst hb
    rw [stepByte_nl, if_pos (by decide : ((NL : UInt8) == 10) = true)]
    exact ⟨_, _, rfl, rfl, rfl⟩
  · rw [if_neg (fun h : (b == 10) = true => hb (eq_of_beq h))]
    by_cases hk : m ≤ msg.length + 1
    · rw [stepByte_full m _ b hb hk, if_pos (hlen.2 hk)]
      cases f.warnedAboutLongLine <;> exact ⟨_, _, rfl, by rw [List.append_assoc]; rfl, rfl⟩
    · rw [stepByte_more m _ b hb (Nat.not_le.1 hk), if_neg (fun h => hk (hlen.1 h))]
      exact ⟨_, _, rfl, rfl, rfl⟩

/-- the end of the file for a reader that does not wait there: a pending partial line is sent, and reading ends -/
theorem handleReadError_eof (ext : Ext) (f : readFile) (hs : f.seekEOF = false) (fd msg : GoString) :
    ∃ f', readFile.handleReadError ext f () goEOF fd () () msg = (f', abortReading, none) ∧
      f'.rawLines = eofFlush ⟨msg, f.rawLines⟩ := by
  unfold readFile.handleReadError eofFlush
  have h1 : (goEOF != goEOF) = false := by decide
  simp only [h1, Bool.false_eq_true, if_false, hs, Bool.not_false, if_true]
  cases msg with
  | nil => exact ⟨_, rfl, by simp⟩
  | cons a rest =>
    simp only [len_pos_cons, if_true]
    exact ⟨_, rfl, by simp⟩

/-- the loop, from any state: fuel for the bytes left and for the round that meets the end of the file -/
theorem read_loop (ext : Ext) (m : Nat) (hm : ext.maxLineLength = (m : Int)) (fd : GoString) :
    ∀ (bs : GoString) (fuel : Nat) (f : readFile) (msg : GoString) (off : Int), f.seekEOF = false → bs.length < fuel →
      ∃ f', goWhile fuel (f, msg, off, bs) (fun _ => true) (readBody ext () fd () ())
          (fun _ => Outcome.panic "unreachable") (Outcome.panic "out of fuel") = Outcome.ok (f', none) ∧
        f'.rawLines = eofFlush (readFrom m ⟨msg, f.rawLines⟩ bs) := by
  intro bs fuel f msg off hs hf
  -- invariant: the model sends the same lines from the state reached as from the first one
  refine goWhile_inv
    (fun r => ∃ f' : readFile, r = Outcome.ok (f', none) ∧ f'.rawLines = eofFlush (readFrom m ⟨msg, f.rawLines⟩ bs))
    (fun s : readFile × GoString × Int × GoString => s.1.seekEOF = false ∧
      eofFlush (readFrom m ⟨s.2.1, s.1.rawLines⟩ s.2.2.2) = eofFlush (readFrom m ⟨msg, f.rawLines⟩ bs))
    (fun s => s.2.2.2.length) ⟨hs, rfl⟩ hf ?_ (fun _ _ hc => Bool.noConfusion hc)
  rintro ⟨f1, msg1, off1, bs1⟩ ⟨hs1, hI⟩ -
  cases bs1 with
  | nil =>
    obtain ⟨f', he, hr⟩ := handleReadError_eof ext f1 hs1 fd msg1
    have hb : readBody ext () fd () () (f1, msg1, off1, []) = .ret (.ok (f', none)) := by
      unfold readBody
      dsimp only [goReadByte]
      rw [if_pos (by decide), he]
      rfl
    rw [hb]
    exact ⟨f', rfl, hr.trans hI⟩
  | cons b rest =>
    obtain ⟨f2, msg2, he, hst, hs2⟩ := handleReadByte_spec ext m hm f1 b msg1
    have hb : readBody ext () fd () () (f1, msg1, off1, b :: rest) = .next (f2, msg2, off1 + 1, rest) := by
      unfold readBody
      dsimp only [goReadByte]
      rw [if_neg (by decide), he]
      rfl
    rw [hb]
    exact ⟨⟨hs2.trans hs1, hst ▸ hI⟩, Nat.lt_succ_self _⟩

/-- **the translated `read` sends the model's `readLines`**: for every file content, a reader that does not wait at the end
    of the file, started with an empty history and enough fuel, returns no error, does not panic, and has sent on `rawLines`
    exactly `readLines m bs` where `m` is the configured maximal line length -/
theorem read_refines (ext : Ext) (m : Nat) (hm : ext.maxLineLength = (m : Int)) (f : readFile) (hs : f.seekEOF = false)
    (hr : f.rawLines = []) (fd bs : GoString) (hf : bs.length < ext.fuel) :
    ∃ f', readFile.read ext f () fd bs () () = Outcome.ok (f', none) ∧ f'.rawLines = readLines m bs := by
  rw [read_eq]
  obtain ⟨f', h1, h2⟩ := read_loop ext m hm fd bs ext.fuel f [] 0 hs hf
  exact ⟨f', h1, by rw [h2, hr]; rfl⟩

end Dtail.GenReader
