/-
Tie G for the rewrite of the known-hosts file: `KnownHostsCallback.trustHosts` of internal/ssh/client/knownhostscallback.go
as translated from the working tree on this run (`Generated/Code.lean`, namespace `Gen.KnownHosts`).  File operations are
recorded in order in the receiver (`ext.ioErr` decides whether one fails), the scanner over the old file is the list of the
lines it delivers (`ext.scanLines`), `knownhosts.Normalize` is a parameter, the answer sent to the waiting connection is
outside the translation.  The theorem says that when no operation fails the function does not panic and writes, into the
temporary file it then renames over the old one, exactly the model's `trustHostsLines` (`Model/KnownHosts.lean`): the new
entries, then every old line whose address is not among the newly trusted ones.
-/
import DtailModel.Generated.Code
import DtailModel.Lemmas.GoRT
import DtailModel.Model.KnownHosts
import DtailModel.Model.Outfile
namespace Dtail.GenKnownHosts
open Dtail Dtail.Go Dtail.Gen.KnownHosts

def hostOf (ext : Ext) (h : unknownHost) : NewHost :=
  ⟨h.hostLine, h.ipLine, [ext.normalizeAddr h.server, ext.normalizeAddr h.remote]⟩

/-- the map of newly trusted addresses holds exactly these keys -/
def HasKeys (m : GoMap GoString Unit) (ks : List GoString) : Prop := ∀ k, (m.get? k).isSome = ks.contains k

theorem hasKeys_set (m : GoMap GoString Unit) (ks : List GoString) (k : GoString) (h : HasKeys m ks) :
    HasKeys (m.set k ()) (ks ++ [k]) := by
  intro k'
  rw [GoMap.isSome_get?_set, h k', List.contains_append, Bool.or_comm, List.contains_cons, List.contains_nil, Bool.or_false]

def wr (fd : GoString) (l : Bytes) : GoFOp := GoFOp.write fd (l ++ [10])

def newLines (hosts : List unknownHost) : List Bytes := hosts.flatMap fun h => [h.hostLine, h.ipLine]
def addrsOf (ext : Ext) (hosts : List unknownHost) : List Bytes :=
  hosts.flatMap fun h => [ext.normalizeAddr h.server, ext.normalizeAddr h.remote]
def keptLines (ext : Ext) (hosts : List unknownHost) (old : List Bytes) : List Bytes :=
  old.filter fun l => !(addrsOf ext hosts).contains (lineAddress l)

theorem lines_model (ext : Ext) (hosts : List unknownHost) (old : List Bytes) :
    newLines hosts ++ keptLines ext hosts old = trustHostsLines (hosts.map (hostOf ext)) old := by
  unfold newLines keptLines addrsOf trustHostsLines
  simp only [List.flatMap_map, hostOf]

theorem none_bne : ((none : GoErr) != none) = false := rfl
theorem tmp_lit : b!".tmp" = TMP := rfl

abbrev R := Outcome KnownHostsCallback

/-- the pieces of the translated `trustHosts`, as the translator emitted them (`trustHosts_eq`): the body of the loop over the
    newly trusted hosts, that of the loop over the lines of the old file, the rename that ends the function, and what follows
    the first loop -/
def hostsBody (ext : Ext) (newFd : GoString) :
    GoMap GoString Unit × KnownHostsCallback × GoErr → unknownHost → LoopStep R (GoMap GoString Unit × KnownHostsCallback × GoErr) :=
  fun (addresses, c, err) unknown =>
    let addresses := (GoIndex.upd addresses (ext.normalizeAddr unknown.server) ())
    let addresses := (GoIndex.upd addresses (ext.normalizeAddr unknown.remote) ())
    let (_h4, _e4) := goEffect ext c.ops (GoFOp.write newFd (unknown.hostLine ++ ([10] : GoString)))
    let c := { c with ops := _h4 }
    let _t5 := (GoLen.len (unknown.hostLine ++ ([10] : GoString)))
    let _t6 := _e4
    let _u7 := _t5
    let err_8 := _t6
    if (err_8 != none) then
      LoopStep.ret (Outcome.panic "explicit panic")
    else
      let (_h9, _e9) := goEffect ext c.ops (GoFOp.write newFd (unknown.ipLine ++ ([10] : GoString)))
      let c := { c with ops := _h9 }
      let _t10 := (GoLen.len (unknown.ipLine ++ ([10] : GoString)))
      let _t11 := _e9
      let _u12 := _t10
      let err_13 := _t11
      if (err_13 != none) then
        LoopStep.ret (Outcome.panic "explicit panic")
      else
        LoopStep.next (addresses, c, err)

def oldBody (ext : Ext) (newFd : GoString) (addresses : GoMap GoString Unit) :
    KnownHostsCallback → GoString → LoopStep R KnownHostsCallback :=
  fun c _line18 =>
    let line := _line18
    if (goInRange (splitN (32 : UInt8) 2 line) 0) then
      let address := (GoIndex.idx (splitN (32 : UInt8) 2 line) 0)
      let (_t19, _t20) := GoIndex.idxOk addresses address
      let _u21 := _t19
      let ok := _t20
      if (!ok) then
        let (_h22, _e22) := goEffect ext c.ops (GoFOp.write newFd (line ++ ([10] : GoString)))
        let c := { c with ops := _h22 }
        LoopStep.next c
      else
        LoopStep.next c
    else
      LoopStep.ret (Outcome.panic "index out of range")

def finish (ext : Ext) (tmpKnownHostsPath : GoString) : KnownHostsCallback → R :=
  fun c =>
    let (_h23, _e23) := goEffect ext c.ops (GoFOp.rename tmpKnownHostsPath c.knownHostsPath)
    let c := { c with ops := _h23 }
    let _t24 := _e23
    let err_25 := _t24
    if (err_25 != none) then
      (Outcome.panic "explicit panic")
    else
      (Outcome.ok c)

def afterHosts (ext : Ext) (tmpKnownHostsPath newFd : GoString) : GoMap GoString Unit × KnownHostsCallback × GoErr → R :=
  fun (addresses, c, err) =>
    let (_h14, _e14) := goEffect ext c.ops (GoFOp.open c.knownHostsPath GoOpenMode.rdcreate)
    let c := { c with ops := _h14 }
    let (_h15, _e15) := goEffect ext c.ops (GoFOp.open c.knownHostsPath GoOpenMode.rdonly)
    let c := { c with ops := _h15 }
    let _t16 := c.knownHostsPath
    let _t17 := _e15
    let oldFd := _t16
    let err := _t17
    if (err != none) then
      (Outcome.panic "explicit panic")
    else
      let scanner := (ext.scanLines oldFd)
      goRange scanner c (oldBody ext newFd addresses) (finish ext tmpKnownHostsPath)

/-- the translated `trustHosts` in terms of the pieces above (checked by `rfl`: the pieces are the generated text) -/
theorem trustHosts_eq (ext : Ext) (c : KnownHostsCallback) (hosts : List unknownHost) :
    KnownHostsCallback.trustHosts ext c hosts =
      (let tmpKnownHostsPath := (c.knownHostsPath ++ ([46, 116, 109, 112] : GoString))
       let (_h1, _e1) := goEffect ext c.ops (GoFOp.open tmpKnownHostsPath GoOpenMode.trunc)
       let c := { c with ops := _h1 }
       let newFd := tmpKnownHostsPath
       let err := _e1
       if (err != none) then
         (Outcome.panic "explicit panic")
       else
         let addresses := (GoZero.zero : (GoMap GoString Unit))
         goRange hosts (addresses, c, err) (hostsBody ext newFd) (afterHosts ext tmpKnownHostsPath newFd)) := rfl

theorem hostsBody_noErr {ext : Ext} (hio : NoIOErr ext) (fd : GoString) (m : GoMap GoString Unit) (c : KnownHostsCallback)
    (e : GoErr) (h : unknownHost) :
    hostsBody ext fd (m, c, e) h = .next ((m.set (ext.normalizeAddr h.server) ()).set (ext.normalizeAddr h.remote) (),
      { c with ops := c.ops ++ [wr fd h.hostLine, wr fd h.ipLine] }, e) := by
  simp only [hostsBody, goEffect_noErr hio, none_bne, Bool.false_eq_true, if_false, List.append_assoc]
  rfl

theorem hosts_loop (ext : Ext) (hio : NoIOErr ext) (fd : GoString)
    (after : GoMap GoString Unit × KnownHostsCallback × GoErr → R) :
    ∀ (hosts : List unknownHost) (m : GoMap GoString Unit) (ks : List GoString) (c : KnownHostsCallback) (e : GoErr),
      HasKeys m ks →
      ∃ m', HasKeys m' (ks ++ addrsOf ext hosts) ∧
        goRange hosts (m, c, e) (hostsBody ext fd) after
        = after (m', { c with ops := c.ops ++ (newLines hosts).map (wr fd) }, e) := by
  intro hosts
  induction hosts with
  | nil => intro m ks c e hk; exact ⟨m, by rwa [addrsOf, List.flatMap_nil, List.append_nil], by simp [goRange, newLines]⟩
  | cons h rest ih =>
    intro m ks c e hk
    obtain ⟨m', hm', hgo⟩ := ih _ _ { c with ops := c.ops ++ [wr fd h.hostLine, wr fd h.ipLine] } e
      (hasKeys_set _ _ (ext.normalizeAddr h.remote) (hasKeys_set _ _ (ext.normalizeAddr h.server) hk))
    refine ⟨m', by simpa [addrsOf] using hm', ?_⟩
    rw [goRange_cons, hostsBody_noErr hio]
    exact hgo.trans (by simp [newLines])

theorem oldBody_noErr {ext : Ext} (hio : NoIOErr ext) (fd : GoString) {m : GoMap GoString Unit} {addrs : List Bytes}
    (hm : HasKeys m addrs) (c : KnownHostsCallback) (l : Bytes) :
    oldBody ext fd m c l
      = .next (if addrs.contains (lineAddress l) then c else { c with ops := c.ops ++ [wr fd l] }) := by
  -- `strings.SplitN(line, " ", 2)[0]` does not panic: the split of a line is never empty
  have hne : splitN (32 : UInt8) 2 l ≠ [] := by unfold splitN; split <;> simp
  have hin : goInRange (splitN (32 : UInt8) 2 l) 0 = true :=
    inRange_of_len _ 0 (Int.le_refl 0) (Int.natCast_pos.2 (List.length_pos_iff.2 hne))
  have haddr : GoIndex.idx (splitN (32 : UInt8) 2 l) (0 : Int) = lineAddress l := by
    show (splitN (32 : UInt8) 2 l).getD 0 [] = ((splitN (32 : UInt8) 2 l).head?).getD []
    cases splitN (32 : UInt8) 2 l <;> rfl
  simp only [oldBody, hin, if_true, haddr, GoMap.idxOk_snd, hm (lineAddress l), goEffect_noErr hio]
  cases addrs.contains (lineAddress l) <;> rfl

theorem old_loop (ext : Ext) (hio : NoIOErr ext) (fd : GoString) (m : GoMap GoString Unit) (addrs : List Bytes)
    (hm : HasKeys m addrs) (after : KnownHostsCallback → R) :
    ∀ (old : List Bytes) (c : KnownHostsCallback),
      goRange old c (oldBody ext fd m) after
      = after { c with ops := c.ops ++ (old.filter fun l => !addrs.contains (lineAddress l)).map (wr fd) } := by
  intro old
  induction old with
  | nil => intro c; simp [goRange]
  | cons l rest ih =>
    intro c
    rw [goRange_cons, oldBody_noErr hio fd hm, List.filter_cons]
    cases addrs.contains (lineAddress l)
    · exact (ih _).trans (by simp)
    · exact ih c

/-- **what the translated `trustHosts` does when no file operation fails**: it does not panic, and it has opened the
    temporary file, written the new entries, made sure the old file exists, opened and scanned it, written the old lines whose
    address was not replaced, and renamed the temporary file over the old one — in this order -/
theorem trustHosts_refines (ext : Ext) (hio : NoIOErr ext) (c : KnownHostsCallback) (hosts : List unknownHost) :
    ∃ c', KnownHostsCallback.trustHosts ext c hosts = Outcome.ok c' ∧ c'.knownHostsPath = c.knownHostsPath ∧
      c'.ops = c.ops ++ [GoFOp.open (c.knownHostsPath ++ TMP) .trunc]
        ++ (newLines hosts).map (wr (c.knownHostsPath ++ TMP))
        ++ [GoFOp.open c.knownHostsPath .rdcreate, GoFOp.open c.knownHostsPath .rdonly]
        ++ (keptLines ext hosts (ext.scanLines c.knownHostsPath)).map (wr (c.knownHostsPath ++ TMP))
        ++ [GoFOp.rename (c.knownHostsPath ++ TMP) c.knownHostsPath] := by
  rw [trustHosts_eq]
  simp only [goEffect_noErr hio, none_bne, Bool.false_eq_true, if_false]
  obtain ⟨m', hm', hgo⟩ := hosts_loop ext hio (c.knownHostsPath ++ TMP)
    (afterHosts ext (c.knownHostsPath ++ TMP) (c.knownHostsPath ++ TMP)) hosts (GoZero.zero : GoMap GoString Unit) []
    { c with ops := c.ops ++ [GoFOp.open (c.knownHostsPath ++ TMP) .trunc] } none (by intro k; rfl)
  have htmp : c.knownHostsPath ++ b!".tmp" = c.knownHostsPath ++ TMP :=
    congrArg (c.knownHostsPath ++ ·) tmp_lit
  rw [htmp, hgo]
  simp only [afterHosts, goEffect_noErr hio, none_bne, Bool.false_eq_true, if_false]
  rw [old_loop ext hio (c.knownHostsPath ++ TMP) m' (addrsOf ext hosts) (by simpa using hm')]
  simp only [finish, goEffect_noErr hio, none_bne, Bool.false_eq_true, if_false]
  exact ⟨_, rfl, rfl, by simp [keptLines, List.append_assoc]⟩

end Dtail.GenKnownHosts
