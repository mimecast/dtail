/-
The one fact about the translated grep-context filter that C10 rests on, in a file of its own: it uses only the first lines of
`filterWithLContext` (the `make(chan, n)` guard), so a change to the context automaton — which the refinement lemmas of
`GenGrep.lean` (C03) follow step by step — does not stop C10's theorems from checking.
-/
import DtailModel.Generated.Code

namespace Dtail.GenGrep
open Dtail Dtail.Go Dtail.Gen.Grep

/-- the recorded C10 finding on the translated code: a `before` context beyond what `make(chan, n)` accepts makes the filter
    panic before it reads a line -/
theorem filter_huge_before_panics (ext : Ext) (ltx : GoLContext) (hB : ltx.BeforeContext > 35184372088820) (f : readFile)
    (raws : List GoString) (re : GoRegex) :
    readFile.filterWithLContext ext f () ltx raws () re = Outcome.panic "index out of range" := by
  unfold readFile.filterWithLContext
  have h1 : decide (ltx.BeforeContext > 0) = true := decide_eq_true (Int.lt_trans (by decide) hB)
  have h2 : ¬ goMakeChanOk ltx.BeforeContext = true := fun h => Int.not_le.2 hB (of_decide_eq_true h).2
  rw [if_pos h1, if_neg h2]

end Dtail.GenGrep
