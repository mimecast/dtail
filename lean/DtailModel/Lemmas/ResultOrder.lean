/-
The final report does not depend on the order in which the groups reach the sort (Go ranges over a map), nor on how the
global group set was built: `sortBy` is core's stable `List.mergeSort` (`sortBy_eq_mergeSort`), so permutations of the same
rows sort alike, and two group lists with the same lookups and no key twice are permutations of each other.
-/
import DtailModel.Model.Result
import DtailModel.Lemmas.AggPipeline
namespace Dtail.ResultOrder

variable {α κ : Type}

structure Linear (le : κ → κ → Bool) : Prop where
  total : ∀ a b, le a b = true ∨ le b a = true
  trans : ∀ a b c, le a b = true → le b c = true → le a c = true
  antisymm : ∀ a b, le a b = true → le b a = true → a = b

theorem Linear.flip {le : κ → κ → Bool} (hl : Linear le) : Linear fun a b => le b a :=
  ⟨fun a b => hl.total b a, fun a b c h1 h2 => hl.trans c b a h2 h1, fun a b h1 h2 => hl.antisymm a b h2 h1⟩

/-- in the form core's sorting lemmas ask for -/
theorem Linear.keyed {le : κ → κ → Bool} (hl : Linear le) (key : α → κ) :
    (∀ a b c : α, le (key a) (key b) → le (key b) (key c) → le (key a) (key c)) ∧
    (∀ a b : α, le (key a) (key b) || le (key b) (key a)) :=
  ⟨fun _ _ _ => hl.trans _ _ _, fun _ _ => by simpa using hl.total _ _⟩

theorem insertBy_append (le : κ → κ → Bool) (key : α → κ) (x : α) (l₁ l₂ : List α)
    (h₁ : ∀ y ∈ l₁, le (key x) (key y) = false) (h₂ : ∀ y ∈ l₂.head?, le (key x) (key y) = true) :
    insertBy le key x (l₁ ++ l₂) = l₁ ++ x :: l₂ := by
  induction l₁ with
  | nil =>
    cases l₂ with
    | nil => rfl
    | cons y r => exact if_pos (h₂ y rfl)
  | cons y r ih =>
    rw [List.cons_append, insertBy, if_neg (by simp [h₁ y List.mem_cons_self]),
      ih fun z hz => h₁ z (List.mem_cons_of_mem _ hz), List.cons_append]

/-- inserting the head into the sorted tail is what `List.mergeSort_cons` says the merge sort does -/
theorem sortBy_eq_mergeSort {le : κ → κ → Bool} (hl : Linear le) (key : α → κ) (l : List α) :
    sortBy le key l = l.mergeSort fun a b => le (key a) (key b) := by
  obtain ⟨trans, total⟩ := hl.keyed key
  induction l with
  | nil => simp [sortBy]
  | cons x r ih =>
    obtain ⟨l₁, l₂, h, hr, h₁⟩ := List.mergeSort_cons trans total x r
    have hs := List.pairwise_mergeSort trans total (x :: r)
    rw [h] at hs ⊢
    show insertBy le key x (sortBy le key r) = _
    rw [ih, hr]
    refine insertBy_append le key x l₁ l₂ (by simpa using h₁) fun y hy => ?_
    exact (List.pairwise_cons.1 (List.pairwise_append.1 hs).2.1).1 y (List.mem_of_mem_head? hy)

theorem sortBy_perm {le : κ → κ → Bool} (hl : Linear le) (key : α → κ) (l : List α) : (sortBy le key l).Perm l :=
  sortBy_eq_mergeSort hl key l ▸ List.mergeSort_perm l _

theorem sortBy_sorted {le : κ → κ → Bool} (hl : Linear le) (key : α → κ) (l : List α) :
    (sortBy le key l).Pairwise fun a b => le (key a) (key b) = true :=
  sortBy_eq_mergeSort hl key l ▸ List.pairwise_mergeSort (hl.keyed key).1 (hl.keyed key).2 l

theorem sortBy_keys_of_perm {le : κ → κ → Bool} (hl : Linear le) (key : α → κ) (a b : List α) (h : a.Perm b) :
    (sortBy le key a).map key = (sortBy le key b).map key := by
  have hp : ((sortBy le key a).map key).Perm ((sortBy le key b).map key) :=
    (((sortBy_perm hl key a).trans h).trans (sortBy_perm hl key b).symm).map key
  exact hp.eq_of_pairwise (le := fun x y => le x y = true) (fun x y _ _ => hl.antisymm x y)
    (List.pairwise_map.2 (sortBy_sorted hl key a)) (List.pairwise_map.2 (sortBy_sorted hl key b))

theorem sortBy_eq_of_perm {le : κ → κ → Bool} (hl : Linear le) (key : α → κ) (a b : List α) (h : a.Perm b)
    (hinj : ∀ x ∈ a, ∀ y ∈ a, key x = key y → x = y) : sortBy le key a = sortBy le key b := by
  have hp : (sortBy le key a).Perm (sortBy le key b) :=
    ((sortBy_perm hl key a).trans h).trans (sortBy_perm hl key b).symm
  refine hp.eq_of_pairwise (le := fun x y => le (key x) (key y) = true) ?_ (sortBy_sorted hl key a) (sortBy_sorted hl key b)
  intro x y hx hy h1 h2
  exact hinj x ((sortBy_perm hl key a).subset hx) y (h.symm.subset ((sortBy_perm hl key b).subset hy))
    (hl.antisymm _ _ h1 h2)

theorem sortBy_stable [DecidableEq κ] {le : κ → κ → Bool} (hl : Linear le) (key : α → κ) (l : List α) (k : κ) :
    (sortBy le key l).filter (fun e => decide (key e = k)) = l.filter (fun e => decide (key e = k)) := by
  rw [sortBy_eq_mergeSort hl]
  -- the rows with key `k` are a sorted sublist of the input: the sort keeps them as a sublist, and has no more of them
  have hk : (l.filter fun e => decide (key e = k)).Pairwise fun a b => le (key a) (key b) = true :=
    List.pairwise_of_forall_mem_list fun a ha b hb => by
      rw [of_decide_eq_true (List.mem_filter.1 ha).2, of_decide_eq_true (List.mem_filter.1 hb).2]
      simpa using hl.total k k
  have hsub := (List.sublist_mergeSort (hl.keyed key).1 (hl.keyed key).2 hk List.filter_sublist).filter
    fun e => decide (key e = k)
  simp only [List.filter_filter, Bool.and_self] at hsub
  exact (hsub.eq_of_length (((List.mergeSort_perm l _).filter _).length_eq).symm).symm

theorem leRat_linear : Linear leRat where
  total a b := by simpa [leRat] using Rat.le_total (a := a) (b := b)
  trans a b c := by simpa [leRat] using Rat.le_trans (a := a) (b := b) (c := c)
  antisymm a b := by simpa [leRat] using Rat.le_antisymm (a := a) (b := b)

theorem geRat_linear : Linear geRat := leRat_linear.flip

open AggPipe

theorem perm_of_lookup_eq (a b : Groups) (ha : (keys a).Nodup) (hb : (keys b).Nodup)
    (h : ∀ k, lookup a k = lookup b k) : a.Perm b := by
  have nd : ∀ g : Groups, (keys g).Nodup → g.Nodup := fun g hg =>
    (List.pairwise_map.1 hg).imp fun hne e => hne (congrArg Prod.fst e)
  refine (List.perm_ext_iff_of_nodup (nd a ha) (nd b hb)).2 ?_
  rintro ⟨k, s⟩
  rw [mem_iff_lookup a ha, mem_iff_lookup b hb, h]

theorem nodup_distributed (sel : List SelCond) (gb : List Bytes) (parts : List (List Fields)) :
    (keys (distributed sel gb parts)).Nodup :=
  C05.foldl_parts (fun g _ => (keys g).Nodup) _ (fun g _ _ hg => nodup_mergeGroups sel g _ hg) parts [] [] .nil

theorem distributed_perm_central (sel : List SelCond) (gb : List Bytes) (parts : List (List Fields)) :
    (distributed sel gb parts).Perm (central sel gb parts.flatten) :=
  perm_of_lookup_eq _ _ (nodup_distributed sel gb parts) (nodup_partial sel gb _)
    (distributed_eq_central sel gb parts)

theorem limitRows_map {α β : Type} (f : α → β) (limit : Int) (l : List α) :
    (limitRows limit l).map f = limitRows limit (l.map f) := by
  unfold limitRows; split <;> simp [List.map_take]

theorem limitRows_prefix {α : Type} (limit : Int) (l : List α) : ∃ t, limitRows limit l ++ t = l := by
  unfold limitRows
  split
  · exact ⟨[], List.append_nil l⟩
  · exact ⟨_, List.take_append_drop _ l⟩

/-- the comparison `resultOrderBy` sorts with: ascending for `rorder by`, descending for `order by` -/
def rowLe (q : Query) : Rat → Rat → Bool := if q.reverse then leRat else geRat

theorem rowLe_linear (q : Query) : Linear (rowLe q) := by
  unfold rowLe; split
  · exact leRat_linear
  · exact geRat_linear

theorem orderRows_eq_sortBy (q : Query) (rows : List Row) (ho : q.orderBy ≠ []) :
    orderRows q rows = sortBy (rowLe q) (·.orderBy) rows := by
  unfold orderRows rowLe
  rw [if_neg ho]
  split <;> rfl

theorem orderRows_perm (q : Query) (a : List Row) : (orderRows q a).Perm a := by
  by_cases ho : q.orderBy = []
  · rw [orderRows, if_pos ho]
  · rw [orderRows_eq_sortBy q a ho]; exact sortBy_perm (rowLe_linear q) _ a

theorem orderRows_sorted (q : Query) (rows : List Row) (ho : q.orderBy ≠ []) :
    (orderRows q rows).Pairwise fun a b => if q.reverse then a.orderBy ≤ b.orderBy else b.orderBy ≤ a.orderBy := by
  rw [orderRows_eq_sortBy q rows ho]
  refine (sortBy_sorted (rowLe_linear q) _ rows).imp fun h => ?_
  by_cases hr : q.reverse = true <;> simpa [rowLe, hr, leRat, geRat] using h

end Dtail.ResultOrder
