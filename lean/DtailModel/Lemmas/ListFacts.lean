/-
Facts about lists that core lacks and lemma files of several properties need: a list after `set` (read, counted), lists of
a known length, and a list of pairs read as a finite map (`find?` by key after the key was removed or stored afresh).
-/
namespace Dtail

/-- a fold is the same over a permutation of the list when its steps commute pairwise: `Pairwise` names each unordered pair
    once, core's `Perm.foldl_eq'` asks for both orders -/
theorem foldl_perm_of_pairwise {α β : Type} {f : β → α → β} {l l' : List α} (hp : l.Perm l')
    (hc : l.Pairwise fun x y => ∀ z, f (f z x) y = f (f z y) x) (init : β) : l.foldl f init = l'.foldl f init :=
  hp.foldl_eq' (List.Pairwise.forall_of_forall_of_flip (fun _ _ _ => rfl) hc (hc.imp fun h z => (h z).symm)) init

theorem getD_set {α : Type} (l : List α) (i j : Nat) (v d : α) (h : i < l.length) :
    (l.set i v).getD j d = if j = i then v else l.getD j d := by
  simp only [List.getD_eq_getElem?_getD, List.getElem?_set, h, if_true]
  by_cases e : i = j
  · rw [if_pos e, if_pos e.symm]; rfl
  · rw [if_neg e, if_neg (Ne.symm e)]

theorem eq_of_getElem?_replicate {α : Type} {n i : Nat} {a x : α} (h : (List.replicate n a)[i]? = some x) : x = a :=
  (List.mem_replicate.1 (List.mem_of_getElem? h)).2

theorem list_len3 {α : Type} (l : List α) (h : l.length = 3) : ∃ a b c, l = [a, b, c] := by
  match l, h with
  | [a, b, c], _ => exact ⟨a, b, c, rfl⟩

theorem list_len6 {α : Type} (l : List α) (h : l.length = 6) : ∃ a b c d e f, l = [a, b, c, d, e, f] := by
  match l, h with
  | [a, b, c, d, e, f], _ => exact ⟨a, b, c, d, e, f, rfl⟩

/-- core's `List.countP_set` without its truncated subtraction -/
theorem length_filter_set {α : Type} (p : α → Bool) {l : List α} {i : Nat} {old : α} (new : α) (h : l[i]? = some old) :
    ((l.set i new).filter p).length + (if p old then 1 else 0) = (l.filter p).length + (if p new then 1 else 0) := by
  obtain ⟨hi, rfl⟩ := List.getElem?_eq_some_iff.1 h
  have := List.boole_getElem_le_countP (p := p) hi
  simp only [← List.countP_eq_length_filter, List.countP_set hi]
  omega

theorem perm_cons_eraseIdx {α : Type} (l : List α) (r : Nat) (x : α) (h : l[r]? = some x) : (x :: l.eraseIdx r).Perm l := by
  induction l generalizing r with
  | nil => simp at h
  | cons a l ih =>
    cases r with
    | zero =>
      obtain rfl : a = x := by simpa using h
      exact .refl _
    | succ r => exact (List.Perm.swap a x _).trans ((ih r (by simpa using h)).cons a)

variable {κ β : Type} [DecidableEq κ]

theorem find?_filter_ne (l : List (κ × β)) (k k' : κ) :
    (l.filter (·.1 ≠ k)).find? (·.1 = k') = if k' = k then none else l.find? (·.1 = k') := by
  rw [List.find?_filter]
  split
  · next e => exact List.find?_eq_none.2 fun x _ => by simp [e]
  · next e =>
    congr 1
    funext x
    by_cases hx : x.1 = k'
    · simp [hx, e]
    · simp [hx]

theorem find?_store (l : List (κ × β)) (k : κ) (v : β) (k' : κ) :
    ((l.filter (·.1 ≠ k) ++ [(k, v)]).find? (·.1 = k')).map (·.2)
      = if k' = k then some v else (l.find? (·.1 = k')).map (·.2) := by
  rw [List.find?_append, find?_filter_ne]
  split
  · next e => simp [e]
  · next e => rw [List.find?_cons_of_neg (by simpa using Ne.symm e), List.find?_nil, Option.or_none]

end Dtail
