/-
`DeserializeOptions` and `setOption` of internal/config/args.go (`Gen.Config`) compute the model's `deserializeOptions`
(Model/Command.lean): the same line context, an option map with the same lookups, an error exactly where the model has one.
What C12 proves of the model's decoder (round trip, any order of the options) thereby holds of the translated one.
-/
import DtailModel.Generated.Code
import DtailModel.Lemmas.GoRT
import DtailModel.Lemmas.OptionOrder
import DtailModel.Lemmas.LoopRules
namespace Dtail.GenOptions
open Dtail Dtail.Go

/-- what is assumed of the two functions outside the translation: `base64.StdEncoding.DecodeString` answers as the model's
    oracle `env.b64dec`, `strconv.Atoi` as the model's `atoi` -/
structure ExtIs (ext : Ext) (env : Env) : Prop where
  b64ok : ∀ s d, env.b64dec s = some d → ext.base64Decode s = (d, none)
  b64err : ∀ s, env.b64dec s = none → (ext.base64Decode s).2 ≠ none
  atoiOk : ∀ t n, atoi t = some n → ext.atoi t = (n, none)
  atoiErr : ∀ t, atoi t = none → (ext.atoi t).2 ≠ none

def ltxOf (l : GoLContext) : LCtx := ⟨l.BeforeContext, l.AfterContext, l.MaxCount⟩

def Rel (m : GoMap GoString GoString) (o : List (Bytes × Bytes)) : Prop :=
  ∀ k, m.get? k = (o.find? (·.1 = k)).map (·.2)

theorem rel_store (m : GoMap GoString GoString) (o : List (Bytes × Bytes)) (h : Rel m o) (k v : Bytes) :
    Rel (m.set k v) (o.filter (·.1 ≠ k) ++ [(k, v)]) := by
  intro k'
  rw [find?_store]
  split
  · subst k'; exact GoMap.get?_set_eq m k v
  · rw [GoMap.get?_set_ne _ _ _ _ ‹_›, h k']

/-- the `if` is each of the three integer arms of `setOption` (`before`, `after`, `max`); `f` sets the field in the translated
    code, `g` in the model -/
theorem atoi_refines (ext : Ext) (env : Env) (he : ExtIs ext env) (val : Bytes) (m : GoMap GoString GoString)
    (o : List (Bytes × Bytes)) (hr : Rel m o) (gl : GoLContext) (f : Int → GoLContext) (g : Int → LCtx)
    (hfg : ∀ i, ltxOf (f i) = g i) :
    match (atoi val).map fun i => (o, g i) with
    | some (o', l') => ∃ m' gl', (if ((ext.atoi val).2 != none) = true then (gl, m, (ext.atoi val).2)
        else (f (ext.atoi val).1, m, none)) = (gl', m', none) ∧ Rel m' o' ∧ ltxOf gl' = l'
    | none => (if ((ext.atoi val).2 != none) = true then (gl, m, (ext.atoi val).2)
        else (f (ext.atoi val).1, m, none)).2.2 ≠ none := by
  cases h : atoi val with
  | some i => rw [he.atoiOk val i h]; exact ⟨m, f i, rfl, hr, hfg i⟩
  | none =>
    have := he.atoiErr val h
    rw [if_pos (by simpa using this)]
    exact this

theorem setOption_refines (ext : Ext) (env : Env) (he : ExtIs ext env) (key val : Bytes)
    (m : GoMap GoString GoString) (o : List (Bytes × Bytes)) (hr : Rel m o) (gl : GoLContext) :
    match modelSet key val o (ltxOf gl) with
    | some (o', l') => ∃ m' gl', Gen.Config.setOption ext key val m gl = (gl', m', none) ∧ Rel m' o' ∧ ltxOf gl' = l'
    | none => (Gen.Config.setOption ext key val m gl).2.2 ≠ none := by
  unfold modelSet Gen.Config.setOption
  simp only [beq_iff_eq, Gen.Config.lit_0, Gen.Config.lit_1]
  by_cases h1 : key = b!"before"
  · rw [if_pos h1, if_pos h1]
    exact atoi_refines ext env he val m o hr gl (fun i => { gl with BeforeContext := i }) _ (fun _ => rfl)
  rw [if_neg h1, if_neg h1]
  by_cases h2 : key = b!"after"
  · rw [if_pos h2, if_pos h2]
    exact atoi_refines ext env he val m o hr gl (fun i => { gl with AfterContext := i }) _ (fun _ => rfl)
  rw [if_neg h2, if_neg h2]
  by_cases h3 : key = b!"max"
  · rw [if_pos h3, if_pos h3]
    exact atoi_refines ext env he val m o hr gl (fun i => { gl with MaxCount := i }) _ (fun _ => rfl)
  rw [if_neg h3, if_neg h3]
  exact ⟨_, gl, rfl, rel_store m o hr key val, rfl⟩

/-- the body of the range loop of `Gen.Config.DeserializeOptions`, copied from the generated text -/
def optBody (ext : Ext) (st : GoLContext × GoMap GoString GoString) (o : GoString) :
    LoopStep (Outcome (GoMap GoString GoString × GoLContext × GoErr)) (GoLContext × GoMap GoString GoString) :=
  match st with
  | (ltx, options) =>
    let kv := (splitN (61 : UInt8) 2 o)
    if ((GoLen.len kv) != 2) then
      LoopStep.ret (Outcome.ok (options, ltx, (some Gen.Config.lit_2)))
    else
      if (goInRange kv 0) then
        let key := (GoIndex.idx kv 0)
        if (goInRange kv 1) then
          let val := (GoIndex.idx kv 1)
          if (hasPrefix Gen.Config.lit_3 val) then
            let s := (splitN (37 : UInt8) 2 val)
            if (goInRange s 1) then
              let (_t1, _t2) := (ext.base64Decode (GoIndex.idx s 1))
              let decoded := _t1
              let err := _t2
              if (err != none) then
                LoopStep.ret (Outcome.ok (options, ltx, err))
              else
                let val := decoded
                let err : GoErr := (GoZero.zero : GoErr)
                let (_r3, _t4, _t5) := Gen.Config.setOption ext key val options ltx
                let ltx := _r3
                let options := _t4
                let err := _t5
                if (err != none) then
                  LoopStep.ret (Outcome.ok (options, ltx, err))
                else
                  LoopStep.next (ltx, options)
            else
              LoopStep.ret (Outcome.panic "index out of range")
          else
            let err : GoErr := (GoZero.zero : GoErr)
            let (_r6, _t7, _t8) := Gen.Config.setOption ext key val options ltx
            let ltx := _r6
            let options := _t7
            let err := _t8
            if (err != none) then
              LoopStep.ret (Outcome.ok (options, ltx, err))
            else
              LoopStep.next (ltx, options)
        else
          LoopStep.ret (Outcome.panic "index out of range")
      else
        LoopStep.ret (Outcome.panic "index out of range")

theorem DeserializeOptions_eq (ext : Ext) (opts : List GoString) :
    Gen.Config.DeserializeOptions ext opts
      = goRange opts (({} : GoLContext), (GoZero.zero : GoMap GoString GoString)) (optBody ext)
          (fun st => Outcome.ok (st.2, st.1, none)) := rfl

def Matches (r : Outcome (List (Bytes × Bytes) × LCtx)) (t : Outcome (GoMap GoString GoString × GoLContext × GoErr)) : Prop :=
  match r with
  | .ok (o', l') => ∃ m' gl', t = .ok (m', gl', none) ∧ Rel m' o' ∧ ltxOf gl' = l'
  | .err _ => ∃ m' gl' e, t = .ok (m', gl', some e)
  | .panic _ => True

/-- the common end of the two arms of `optBody` -/
def setStep (ext : Ext) (k val : GoString) (gl : GoLContext) (m : GoMap GoString GoString) :
    LoopStep (Outcome (GoMap GoString GoString × GoLContext × GoErr)) (GoLContext × GoMap GoString GoString) :=
  match Gen.Config.setOption ext k val m gl with
  | (gl', m', err) => if err != none then .ret (.ok (m', gl', err)) else .next (gl', m')

theorem idx_zero (l : List GoString) : (GoIndex.idx l (0 : Int) : GoString) = l.getD 0 [] := rfl
theorem idx_one (l : List GoString) : (GoIndex.idx l (1 : Int) : GoString) = l.getD 1 [] := rfl

/-- why the guards hold: an option with one '=' has a key and a value, a value that starts with `base64%` has a part after
    the '%' -/
theorem optBody_eq (ext : Ext) (gl : GoLContext) (m : GoMap GoString GoString) (x : GoString) :
    optBody ext (gl, m) x =
      let kv := splitN2 EQ x
      if kv.length ≠ 2 then .ret (.ok (m, gl, some Gen.Config.lit_2))
      else if hasPrefix (b!"base64%") (kv.getD 1 []) then
        let d := ext.base64Decode ((splitN2 PERCENT (kv.getD 1 [])).getD 1 [])
        if d.2 != none then .ret (.ok (m, gl, d.2)) else setStep ext (kv.getD 0 []) d.1 gl m
      else setStep ext (kv.getD 0 []) (kv.getD 1 []) gl m := by
  unfold optBody
  dsimp only [splitN2, EQ, PERCENT]
  generalize splitN 61 2 x = kv
  rw [idx_zero kv, idx_one kv]
  generalize kv.getD 1 [] = v
  by_cases h2 : kv.length = 2
  · have g0 : goInRange kv 0 = true := inRange_of_len kv 0 (Int.le_refl 0) (by omega)
    have g1 : goInRange kv 1 = true := inRange_of_len kv 1 (by decide) (by omega)
    rw [if_neg (show ¬ ((GoLen.len kv : Int) != 2) = true by guard_tac), if_neg (not_not_intro h2), if_pos g0, if_pos g1]
    by_cases hp : hasPrefix (b!"base64%") v = true
    · have hs := splitN2_base64 v hp
      have gs : goInRange (splitN 37 2 v) 1 = true := inRange_of_len (splitN2 PERCENT v) 1 (by decide) (by omega)
      rw [if_pos (show hasPrefix Gen.Config.lit_3 v = true from hp), if_pos hp, if_pos gs]
      rfl
    · rw [if_neg (show ¬ hasPrefix Gen.Config.lit_3 v = true from hp), if_neg hp]
      rfl
  · rw [if_pos (show ((GoLen.len kv : Int) != 2) = true by guard_tac), if_pos h2]

def StepMatches (r : Outcome (List (Bytes × Bytes) × LCtx))
    (t : LoopStep (Outcome (GoMap GoString GoString × GoLContext × GoErr)) (GoLContext × GoMap GoString GoString)) : Prop :=
  match r with
  | .ok (o', l') => ∃ m' gl', t = .next (gl', m') ∧ Rel m' o' ∧ ltxOf gl' = l'
  | .err _ => ∃ m' gl' e, t = .ret (.ok (m', gl', some e))
  | .panic _ => True

theorem setStep_refines (ext : Ext) (env : Env) (he : ExtIs ext env) (k val : Bytes) (m : GoMap GoString GoString)
    (o : List (Bytes × Bytes)) (hr : Rel m o) (gl : GoLContext) :
    StepMatches (match modelSet k val o (ltxOf gl) with
      | none => .err "strconv.Atoi"
      | some r => .ok r) (setStep ext k val gl m) := by
  have := setOption_refines ext env he k val m o hr gl
  unfold setStep
  cases hms : modelSet k val o (ltxOf gl) with
  | none =>
    rw [hms] at this
    generalize Gen.Config.setOption ext k val m gl = res at this ⊢
    obtain ⟨gl', m', e⟩ := res
    cases e with
    | none => exact absurd rfl this
    | some ee => exact ⟨_, _, ee, rfl⟩
  | some r =>
    rw [hms] at this
    obtain ⟨m', gl', hso, hrel, hl⟩ := this
    rw [hso]
    exact ⟨m', gl', rfl, hrel, hl⟩

theorem optBody_refines (ext : Ext) (env : Env) (he : ExtIs ext env) (x : GoString) (m : GoMap GoString GoString)
    (o : List (Bytes × Bytes)) (hr : Rel m o) (gl : GoLContext) :
    StepMatches (optStep env x o (ltxOf gl)) (optBody ext (gl, m) x) := by
  rw [optBody_eq, optStep]
  dsimp only
  generalize (splitN2 EQ x).getD 0 [] = k
  generalize (splitN2 EQ x).getD 1 [] = v
  by_cases h2 : (splitN2 EQ x).length = 2
  · rw [if_neg (fun h => h h2), if_neg (fun h => h h2)]
    unfold modelVal
    by_cases hp : hasPrefix (b!"base64%") v = true
    · rw [if_pos hp, if_pos hp]
      cases hd : env.b64dec _ with
      | none =>
        have := he.b64err _ hd
        cases hee : (ext.base64Decode _).2 with
        | none => exact absurd hee this
        | some ee => exact ⟨m, gl, ee, rfl⟩
      | some d =>
        rw [he.b64ok _ d hd]
        exact setStep_refines ext env he k d m o hr gl
    · rw [if_neg hp, if_neg hp]
      exact setStep_refines ext env he k v m o hr gl
  · rw [if_pos h2, if_pos h2]
    exact ⟨m, gl, _, rfl⟩

theorem loop_refines (ext : Ext) (env : Env) (he : ExtIs ext env) (opts : List GoString)
    (m : GoMap GoString GoString) (o : List (Bytes × Bytes)) (hr : Rel m o) (gl : GoLContext) :
    Matches (deserializeOptions env opts o (ltxOf gl))
      (goRange opts (gl, m) (optBody ext) (fun st => Outcome.ok (st.2, st.1, none))) := by
  induction opts generalizing m o gl with
  | nil => exact ⟨m, gl, rfl, hr, rfl⟩
  | cons x rest ih =>
    rw [goRange_cons, deserializeOptions_cons]
    have := optBody_refines ext env he x m o hr gl
    cases hs : optStep env x o (ltxOf gl) with
    | ok r =>
      rw [hs] at this
      obtain ⟨m', gl', hb, hrel, hl⟩ := this
      rw [hb]
      show Matches (deserializeOptions env rest r.1 r.2) _
      rw [← hl]
      exact ih m' r.1 hrel gl'
    | err e =>
      rw [hs] at this
      obtain ⟨m', gl', e', hb⟩ := this
      rw [hb]
      exact ⟨m', gl', e', rfl⟩
    | panic p => trivial

theorem DeserializeOptions_refines (ext : Ext) (env : Env) (he : ExtIs ext env) (opts : List GoString) :
    Matches (deserializeOptions env opts [] {}) (Gen.Config.DeserializeOptions ext opts) :=
  loop_refines ext env he opts _ [] (fun _ => rfl) {}

/-- the three session modes as `baseHandler.handleOptions` reads them from the option map -/
def modesOfMap (m : GoMap GoString GoString) : Bool × Bool × Bool :=
  (decide (m.get? (b!"quiet") = some (b!"true")), decide (m.get? (b!"plain") = some (b!"true")),
   decide (m.get? (b!"serverless") = some (b!"true")))

theorem modesOfMap_rel (m : GoMap GoString GoString) (o : List (Bytes × Bytes)) (h : Rel m o) : modesOfMap m = modesOf o := by
  unfold modesOfMap modesOf
  simp only [h (b!"quiet"), h (b!"plain"), h (b!"serverless")]

/-- C12: however the client orders the options of a request, the server's decoder arrives at the request's line context and
    session modes.  `show'`, the client's printing of integers, is a parameter. -/
theorem generated_any_order_of_readable (ext : Ext) (env : Env) (he : ExtIs ext env) (show' : Int → Bytes) (r : Req)
    (hr : ∀ x ∈ OptionOrder.optsOf r, OptionOrder.Readable show' x)
    (ys : List OptionOrder.Opt) (hp : ys.Perm (OptionOrder.optsOf r)) :
    ∃ m gl, Gen.Config.DeserializeOptions ext (ys.map (OptionOrder.render show')) = .ok (m, gl, none) ∧
      ltxOf gl = r.ltx ∧ modesOfMap m = (r.quiet, r.plain, r.serverless) := by
  obtain ⟨o, ho, hm⟩ := OptionOrder.any_order_of_readable env show' r hr ys hp
  have hmatch := DeserializeOptions_refines ext env he (ys.map (OptionOrder.render show'))
  rw [ho] at hmatch
  obtain ⟨m, gl, ht, hrel, hl⟩ := hmatch
  exact ⟨m, gl, ht, hl, by rw [modesOfMap_rel m o hrel, hm]⟩

theorem generated_any_order (ext : Ext) (env : Env) (he : ExtIs ext env) (show' : Int → Bytes) (hc : IntCodec show') (r : Req)
    (ys : List OptionOrder.Opt) (hp : ys.Perm (OptionOrder.optsOf r)) :
    ∃ m gl, Gen.Config.DeserializeOptions ext (ys.map (OptionOrder.render show')) = .ok (m, gl, none) ∧
      ltxOf gl = r.ltx ∧ modesOfMap m = (r.quiet, r.plain, r.serverless) :=
  generated_any_order_of_readable ext env he show' r (fun x _ => hc.readable x) ys hp

end Dtail.GenOptions
