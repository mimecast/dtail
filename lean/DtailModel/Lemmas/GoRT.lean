/-
The run-time prelude of the translated code (`Model/GoRT.lean`): what its maps, index ranges and effects — one, or several in
sequence (`run`) — compute.  The proof rules for a translated body are in `Lemmas/LoopRules.lean`, which this file hands on to
the files that import it.
-/
import DtailModel.Model.GoRT
import DtailModel.Lemmas.LoopRules
namespace Dtail.Go

namespace GoMap
variable {κ ν : Type} [BEq κ]

theorem find?_map_fst (l : List (κ × ν)) (f : κ × ν → κ × ν) (hf : ∀ e, (f e).1 = e.1) (k' : κ) :
    (l.map f).find? (·.1 == k') = (l.find? (·.1 == k')).map f := by
  rw [List.find?_map]
  exact congrArg (fun p => (l.find? p).map f) (funext fun e => congrArg (· == k') (hf e))

/-- `_, ok := m[k]` -/
theorem idxOk_snd [GoZero ν] (m : GoMap κ ν) (k : κ) : (GoIndex.idxOk m k).2 = (m.get? k).isSome := by
  show (match m.get? k with | some v => (v, true) | none => (GoZero.zero, false)).2 = _
  cases m.get? k <;> rfl

variable [LawfulBEq κ]

theorem get?_set_eq (m : GoMap κ ν) (k : κ) (v : ν) : (m.set k v).get? k = some v := by
  unfold set get?
  by_cases h : m.entries.any (·.1 == k) = true
  · -- there are entries under `k`: the first of them is found, and it has been given `v`
    rw [if_pos h, find?_map_fst _ _ (by intro e; split <;> rfl)]
    obtain ⟨e, he, hek⟩ := List.any_eq_true.1 h
    cases hf : m.entries.find? (·.1 == k) with
    | none => exact absurd hek (by simpa using List.find?_eq_none.1 hf e he)
    | some e' => simp [show (e'.1 == k) = true by simpa using List.find?_some hf]
  · -- there is none: the entry added at the end is the first under `k`
    have hnone : m.entries.find? (·.1 == k) = none :=
      List.find?_eq_none.2 fun e he hek => h (List.any_eq_true.2 ⟨e, he, hek⟩)
    rw [if_neg h]
    simp [List.find?_append, hnone]

theorem get?_set_ne (m : GoMap κ ν) (k k' : κ) (v : ν) (hne : k' ≠ k) : (m.set k v).get? k' = m.get? k' := by
  unfold set get?
  by_cases h : m.entries.any (·.1 == k) = true
  · -- the update keeps every key, and the entry found under `k'` is not one under `k`
    rw [if_pos h, find?_map_fst _ _ (by intro e; split <;> rfl)]
    cases hf : m.entries.find? (·.1 == k') with
    | none => rfl
    | some e' =>
      have h1 : e'.1 = k' := by simpa using List.find?_some hf
      simp [h1, hne]
  · rw [if_neg h, List.find?_append]
    cases m.entries.find? (·.1 == k') <;> simp [Ne.symm hne]

theorem get?_set (m : GoMap κ ν) (k k' : κ) (v : ν) : (m.set k v).get? k' = if k' == k then some v else m.get? k' := by
  by_cases h : k' = k
  · rw [h, get?_set_eq, beq_self_eq_true, if_pos rfl]
  · rw [get?_set_ne m k k' v h, beq_eq_false_iff_ne.2 h, if_neg Bool.false_ne_true]

/-- a map used as a set: `m[k] = v` adds `k` -/
theorem isSome_get?_set (m : GoMap κ ν) (k k' : κ) (v : ν) :
    ((m.set k v).get? k').isSome = (k' == k || (m.get? k').isSome) := by
  rw [get?_set]
  cases k' == k <;> rfl

omit [LawfulBEq κ] in
theorem set_fresh (m : GoMap κ ν) (k : κ) (v : ν) (h : ∀ e ∈ m.entries, (e.1 == k) = false) :
    (m.set k v).entries = m.entries ++ [(k, v)] := by
  unfold set
  rw [if_neg fun ha => by
    obtain ⟨e, he, hek⟩ := List.any_eq_true.1 ha
    exact Bool.false_ne_true ((h e he).symm.trans hek)]

end GoMap

/-- `for i, x := range l`: every index is one of `l` -/
theorem mem_goEnum {α : Type} (l : List α) (i : Int) (x : α) (h : (i, x) ∈ goEnum l) : 0 ≤ i ∧ i < (l.length : Int) := by
  obtain ⟨⟨a, k⟩, hm, he⟩ := List.mem_map.1 h
  obtain ⟨rfl, rfl⟩ := Prod.mk.inj he
  have := (List.mem_zipIdx hm).2.1
  omega

theorem length_goEnum {α : Type} (l : List α) : (goEnum l).length = l.length := by simp [goEnum]

theorem map_snd_goEnum {α : Type} (l : List α) : (goEnum l).map (·.2) = l := by
  unfold goEnum
  rw [List.map_map]
  exact List.zipIdx_map_fst _ _

/-- Go's `len(l) > 0` on a list that has an element -/
theorem len_pos_cons {α : Type} (a : α) (l : List α) : decide ((GoLen.len (a :: l) : Int) > 0) = true :=
  decide_eq_true (Int.natCast_pos.2 (Nat.succ_pos l.length))

theorem goUpTo_self (k : Int) : goUpTo k k = [] := by simp [goUpTo]

theorem goUpTo_cons (lo hi : Int) (h : lo < hi) : goUpTo lo hi = lo :: goUpTo (lo + 1) hi := by
  unfold goUpTo
  rw [show (hi - lo).toNat = (hi - (lo + 1)).toNat + 1 by omega, List.range_succ_eq_map]
  simp [Function.comp_def, Int.add_assoc, Int.add_comm 1]

def NoIOErr (ext : Ext) : Prop := ∀ h op, ext.ioErr h op = none

theorem goEffect_noErr {ext : Ext} (hio : NoIOErr ext) (h : List GoFOp) (op : GoFOp) :
    goEffect ext h op = (h ++ [op], none) := by
  unfold goEffect; rw [hio h op]

/-- what a sequence of file operations leaves: the history, and the error of the operation that failed -/
abbrev Ran := List GoFOp × GoErr

/-- `ops` performed in order from history `h`, each as `goEffect` performs it: the first that fails ends the run, unrecorded -/
def run (ext : Ext) (h : List GoFOp) : List GoFOp → Ran
  | [] => (h, none)
  | op :: ops =>
    match ext.ioErr h op with
    | none => run ext (h ++ [op]) ops
    | some e => (h, some e)

/-- how the code goes on after a run: with `ok` from the new history when nothing failed, with `fail` otherwise -/
def Ran.elim {ρ : Type} (r : Ran) (ok : List GoFOp → ρ) (fail : List GoFOp → GoString → ρ) : ρ :=
  match r with
  | (h, none) => ok h
  | (h, some e) => fail h e

/-- a run, and after it `k` unless an operation failed -/
def Ran.andThen (r : Ran) (k : List GoFOp → Ran) : Ran := r.elim k fun h e => (h, some e)

theorem Ran.elim_ok {ρ : Type} (h : List GoFOp) (ok : List GoFOp → ρ) (fail : List GoFOp → GoString → ρ) :
    Ran.elim (h, none) ok fail = ok h := rfl
theorem Ran.andThen_ok (h : List GoFOp) (k : List GoFOp → Ran) : Ran.andThen (h, none) k = k h := rfl

theorem Ran.elim_andThen {ρ : Type} (r : Ran) (k : List GoFOp → Ran) (ok : List GoFOp → ρ) (fail : List GoFOp → GoString → ρ) :
    (r.andThen k).elim ok fail = r.elim (fun h => (k h).elim ok fail) fail := by
  rcases r with ⟨h, _ | e⟩ <;> rfl

theorem goEffect_run (ext : Ext) (h : List GoFOp) (op : GoFOp) : goEffect ext h op = run ext h [op] := by
  unfold goEffect run run
  cases ext.ioErr h op <;> rfl

theorem run_append (ext : Ext) (a b : List GoFOp) (h : List GoFOp) :
    run ext h (a ++ b) = (run ext h a).andThen (run ext · b) := by
  induction a generalizing h with
  | nil => rfl
  | cons op a ih =>
    simp only [List.cons_append, run]
    cases ext.ioErr h op with
    | none => exact ih _
    | some e => rfl

theorem run_cons (ext : Ext) (a b : GoFOp) (ops h : List GoFOp) :
    run ext h (a :: b :: ops) = (run ext h [a]).andThen (run ext · (b :: ops)) := run_append ext [a] (b :: ops) h

theorem run_ok {ext : Ext} (hio : NoIOErr ext) (h ops : List GoFOp) : run ext h ops = (h ++ ops, none) := by
  induction ops generalizing h with
  | nil => simp [run]
  | cons op ops ih => simp [run, hio h op, ih]

theorem run_prefix (ext : Ext) (h ops : List GoFOp) :
    ∃ pre, (run ext h ops).1 = h ++ pre ∧ pre <+: ops ∧ ((run ext h ops).2 = none → pre = ops) := by
  induction ops generalizing h with
  | nil => exact ⟨[], by simp [run], List.prefix_refl _, fun _ => rfl⟩
  | cons op ops ih =>
    unfold run
    cases ext.ioErr h op with
    | some e => exact ⟨[], by simp, List.nil_prefix, fun he => by cases he⟩
    | none =>
      obtain ⟨pre, h1, h2, h3⟩ := ih (h ++ [op])
      exact ⟨op :: pre, by simp [h1], (List.prefix_cons_inj op).2 h2, fun he => by rw [h3 he]⟩

/-- a loop each round of which performs the operations of its element (`opsOf`) and leaves the function when one of them fails
    performs them all in sequence.  The state `σ` carries the history (`hist`) and is otherwise determined by it (`mk`). -/
theorem goRange_run {α ρ σ : Type} (ext : Ext) (hist : σ → List GoFOp) (mk : List GoFOp → σ) (opsOf : α → List GoFOp)
    (fin : List GoFOp → ρ) (fail : List GoFOp → GoString → ρ) (body : σ → α → LoopStep ρ σ) (after : σ → ρ)
    (hmk : ∀ h, hist (mk h) = h) (hafter : ∀ s, after s = fin (hist s))
    (hbody : ∀ s x, body s x = (run ext (hist s) (opsOf x)).elim (fun h => .next (mk h)) (fun h e => .ret (fail h e)))
    (l : List α) (s : σ) :
    goRange l s body after = (run ext (hist s) (l.flatMap opsOf)).elim fin fail := by
  induction l generalizing s with
  | nil => exact hafter s
  | cons x l ih =>
    rw [goRange_cons, hbody, List.flatMap_cons, run_append, Ran.elim_andThen]
    rcases run ext (hist s) (opsOf x) with ⟨h, _ | e⟩
    · show goRange l (mk h) body after = _
      rw [ih, hmk]; rfl
    · rfl

/-- an operation and `if err != nil` after it, as the translator emits them: `stop` with the error, or `next` -/
def checked {τ : Type} (ext : Ext) (h : List GoFOp) (op : GoFOp) (next stop : List GoFOp → GoErr → τ) : τ :=
  let r := goEffect ext h op
  if r.2 != none then stop r.1 r.2 else next r.1 r.2

theorem checked_run {τ : Type} (ext : Ext) (h : List GoFOp) (op : GoFOp) (next stop : List GoFOp → GoErr → τ) :
    checked ext h op next stop = (run ext h [op]).elim (fun h => next h none) (fun h e => stop h (some e)) := by
  unfold checked
  rw [goEffect_run]
  rcases run ext h [op] with ⟨h', _ | e⟩ <;> rfl

theorem goDeref_some {α : Type} [GoZero α] (a : α) : goDeref (some a) = a := rfl

end Dtail.Go
