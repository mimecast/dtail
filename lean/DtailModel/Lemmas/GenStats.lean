/-
Tie G for internal/io/fs/stats.go: the Lean code that /verif/extract translates from the
working tree on every run (`Generated/Code.lean`, namespace `Dtail.Gen.Fs`) refines the
hand-written ring model of `Model/Tail.lean`, on which the C04 theorems are stated.
If stats.go changes its arithmetic, these proofs no longer close.
-/
import DtailModel.Generated.Code
import DtailModel.Lemmas.Tail
namespace Dtail.GenStats
open Dtail Dtail.Go Dtail.Gen.Fs

/-- the model state a translated `stats` value stands for -/
def abs (g : stats) : Stats :=
  ⟨g.pos.toNat, g.lineCount.toNat, g.matched, g.transmitted, g.matchCount.toNat, g.transmitCount.toNat⟩

/-- a translated value whose integers are non-negative (Go: `int` position, unsigned counters) -/
def NonNeg (g : stats) : Prop :=
  0 ≤ g.pos ∧ 0 ≤ g.lineCount ∧ 0 ≤ g.matchCount ∧ 0 ≤ g.transmitCount

theorem zero_abs : abs ({} : stats) = statsInit ∧ NonNeg ({} : stats) := by
  refine ⟨?_, by simp [NonNeg, GoZero.zero]⟩
  simp [abs, statsInit, ringSize, Facts.statsRingSize, GoZero.zero]

/-- Go's `%` (remainder towards zero) on a non-negative `int` is the remainder of the natural numbers -/
theorem toNat_succ_tmod (x : Int) (n : Nat) (h : 0 ≤ x) :
    0 ≤ Int.tmod (x + 1) n ∧ (Int.tmod (x + 1) n).toNat = (x.toNat + 1) % n := by
  obtain ⟨k, rfl⟩ := Int.eq_ofNat_of_zero_le h
  rw [show (k : Int) + 1 = ((k + 1 : Nat) : Int) from rfl, ← Int.ofNat_tmod]
  exact ⟨Int.natCast_nonneg _, rfl⟩

theorem updatePosition_refines (ext : Ext) (g : stats) (h : NonNeg g) :
    abs (stats.updatePosition ext g) = updatePosition (abs g) ∧ NonNeg (stats.updatePosition ext g) := by
  obtain ⟨hp, hl, hm, ht⟩ := h
  obtain ⟨h0, h1⟩ := toNat_succ_tmod g.pos Facts.statsRingModulus hp
  refine ⟨?_, h0, Int.add_nonneg hl (by decide), hm, ht⟩
  simp only [stats.updatePosition, abs, updatePosition]
  rw [← h1, Int.toNat_add hl (by decide)]
  rfl

theorem getD_toNat (l : List Bool) (i : Int) :
    (GoIndex.idx l i : Bool) = l.getD i.toNat false := rfl

theorem updateLineMatched_refines (ext : Ext) (g : stats) (h : NonNeg g) :
    abs (stats.updateLineMatched ext g) = setMatched (abs g) true ∧ NonNeg (stats.updateLineMatched ext g) := by
  obtain ⟨hp, hl, hm, ht⟩ := h
  unfold stats.updateLineMatched setMatched
  simp only [getD_toNat, abs]
  cases g.matched.getD g.pos.toNat false
  · exact ⟨by simp [Int.toNat_add hm, GoIndex.upd], hp, hl, Int.add_nonneg hm (by decide), ht⟩
  · exact ⟨rfl, hp, hl, hm, ht⟩

theorem updateLineTransmitted_refines (ext : Ext) (g : stats) (h : NonNeg g) :
    abs (stats.updateLineTransmitted ext g) = setTransmitted (abs g) true ∧ NonNeg (stats.updateLineTransmitted ext g) := by
  obtain ⟨hp, hl, hm, ht⟩ := h
  unfold stats.updateLineTransmitted setTransmitted
  simp only [getD_toNat, abs]
  cases g.transmitted.getD g.pos.toNat false
  · exact ⟨by simp [Int.toNat_add ht, GoIndex.upd], hp, hl, hm, Int.add_nonneg ht (by decide)⟩
  · exact ⟨rfl, hp, hl, hm, ht⟩

/-- un-matching decrements a counter: the refinement needs the counter to be positive, which the
    ring invariant provides (a set flag is counted) -/
theorem updateLineNotMatched_refines (ext : Ext) (g : stats) (h : NonNeg g)
    (hpos : g.matched.getD g.pos.toNat false = true → 1 ≤ g.matchCount) :
    abs (stats.updateLineNotMatched ext g) = setMatched (abs g) false ∧ NonNeg (stats.updateLineNotMatched ext g) := by
  obtain ⟨hp, hl, hm, ht⟩ := h
  unfold stats.updateLineNotMatched setMatched
  simp only [getD_toNat, abs]
  rcases Bool.eq_false_or_eq_true (g.matched.getD g.pos.toNat false) with hb | hb <;> simp only [hb]
  · exact ⟨by simp [GoIndex.upd], hp, hl, Int.sub_nonneg_of_le (hpos hb), ht⟩
  · exact ⟨rfl, hp, hl, hm, ht⟩

theorem updateLineNotTransmitted_refines (ext : Ext) (g : stats) (h : NonNeg g)
    (hpos : g.transmitted.getD g.pos.toNat false = true → 1 ≤ g.transmitCount) :
    abs (stats.updateLineNotTransmitted ext g) = setTransmitted (abs g) false ∧ NonNeg (stats.updateLineNotTransmitted ext g) := by
  obtain ⟨hp, hl, hm, ht⟩ := h
  unfold stats.updateLineNotTransmitted setTransmitted
  simp only [getD_toNat, abs]
  rcases Bool.eq_false_or_eq_true (g.transmitted.getD g.pos.toNat false) with hb | hb <;> simp only [hb]
  · exact ⟨by simp [GoIndex.upd], hp, hl, hm, Int.sub_nonneg_of_le (hpos hb)⟩
  · exact ⟨rfl, hp, hl, hm, ht⟩

/-- the two updates of the `matched` half leave alone what un-setting a `transmitted` flag depends on -/
theorem matched_steps_keep (ext : Ext) (g : stats)
    (h : g.transmitted.getD g.pos.toNat false = true → 1 ≤ g.transmitCount) :
    ((stats.updateLineMatched ext g).transmitted.getD (stats.updateLineMatched ext g).pos.toNat false = true →
      1 ≤ (stats.updateLineMatched ext g).transmitCount) ∧
    ((stats.updateLineNotMatched ext g).transmitted.getD (stats.updateLineNotMatched ext g).pos.toNat false = true →
      1 ≤ (stats.updateLineNotMatched ext g).transmitCount) := by
  unfold stats.updateLineMatched stats.updateLineNotMatched
  constructor <;> split <;> exact h

/-- `processLine` after its `updatePosition` -/
def afterPos (canSkip : Bool) (s : Stats) (isMatch queueFull : Bool) : Stats × LineFate × Nat × Nat :=
  if !isMatch then (setTransmitted (setMatched s false) false, .notMatched, 0, 0)
  else
    let s := setMatched s true
    if canSkip ∧ queueFull then (setTransmitted s false, .dropped, 0, 0)
    else
      let s := setTransmitted s true
      (s, .delivered, s.lineCount, percentOf s.matchCount s.transmitCount)

theorem processLine_eq_afterPos (canSkip : Bool) (s : Stats) (m q : Bool) :
    processLine canSkip s m q = afterPos canSkip (updatePosition s) m q := rfl

/-- what the translated `transmittable` reports, in the model's vocabulary -/
def fateOf (r : readFile × GoLine × Bool) : LineFate × Nat × Nat :=
  match r.2.1, r.2.2 with
  | .new _ c p _, true => (.delivered, c.toNat, p.toNat)
  | _, _ => (.notMatched, 0, 0)

/-- the counters of a translated ring agree with its flags -/
def Counted (g : stats) : Prop :=
  g.matchCount.toNat = countTrue g.matched ∧ g.transmitCount.toNat = countTrue g.transmitted

/-- **The translated `transmittable` is the model's line step** (after `updatePosition`): same
    ring, same fate, and a delivered line carries the model's count and percentage. -/
theorem transmittable_refines (ext : Ext) (g : readFile) (raw : GoString) (len cap : Int) (re : GoRegex)
    (hn : NonNeg g.stats) (hc : Counted g.stats)
    (hperc : ∀ m t : Int, 0 ≤ m → 0 ≤ t → ext.percentOf m t = (percentOf m.toNat t.toNat : Int)) :
    let r := readFile.transmittable ext g raw len cap re
    let a := afterPos g.canSkipLines (abs g.stats) (ext.reMatch re raw) (decide (len ≥ cap))
    abs r.1.stats = a.1 ∧ NonNeg r.1.stats ∧ r.1.canSkipLines = g.canSkipLines ∧ r.1.globID = g.globID ∧
    (r.2.2 = true ↔ a.2.1 = .delivered) ∧
    (r.2.2 = true → r.2.1 = GoLine.new raw a.2.2.1 a.2.2.2 g.globID) ∧ (r.2.2 = false → r.2.1 = .null) := by
  have hposM : g.stats.matched.getD g.stats.pos.toNat false = true → 1 ≤ g.stats.matchCount :=
    fun h => Int.lt_toNat.1 (hc.1 ▸ countTrue_pos_of_getD _ _ h)
  have hposT : g.stats.transmitted.getD g.stats.pos.toNat false = true → 1 ≤ g.stats.transmitCount :=
    fun h => Int.lt_toNat.1 (hc.2 ▸ countTrue_pos_of_getD _ _ h)
  obtain ⟨keepM, keepN⟩ := matched_steps_keep ext g.stats hposT
  unfold readFile.transmittable afterPos
  cases ext.reMatch re raw
  · obtain ⟨e1, n1⟩ := updateLineNotMatched_refines ext g.stats hn hposM
    obtain ⟨e2, n2⟩ := updateLineNotTransmitted_refines ext _ n1 keepN
    simp only [Bool.not_false, if_true]
    exact ⟨e2.trans (congrArg (setTransmitted · false) e1), n2, by simp⟩
  · obtain ⟨e1, n1⟩ := updateLineMatched_refines ext g.stats hn
    simp only [Bool.not_true, Bool.false_eq_true, if_false, Bool.and_eq_true, decide_eq_true_eq]
    by_cases hskip : g.canSkipLines = true ∧ len ≥ cap
    · obtain ⟨e2, n2⟩ := updateLineNotTransmitted_refines ext _ n1 keepM
      simp only [hskip, and_self, if_true]
      exact ⟨e2.trans (congrArg (setTransmitted · false) e1), n2, by simp⟩
    · obtain ⟨e2, n2⟩ := updateLineTransmitted_refines ext _ n1
      have e3 := e2.trans (congrArg (setTransmitted · true) e1)
      simp only [hskip, if_false]
      refine ⟨e3, n2, by simp, by simp, by simp, fun _ => ?_, by simp⟩
      -- the count and the percentage sent along are those of the model's ring
      simp only [stats.totalLineCount, stats.transmittedPerc, goConv]
      rw [hperc _ _ n2.2.2.1 n2.2.2.2, ← e3]
      congr 1
      exact (Int.toNat_of_nonneg n2.2.1).symm

end Dtail.GenStats
