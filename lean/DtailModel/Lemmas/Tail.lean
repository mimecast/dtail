import DtailModel.Model.Tail
import DtailModel.Lemmas.ListFacts
namespace Dtail

theorem tailRead_from (m : Nat) (chunks : List Bytes) (s : RS) :
    chunks.foldl (readFrom m) s = readFrom m s chunks.flatten :=
  List.foldl_flatten.symm

theorem countTrue_cons (x : Bool) (xs : List Bool) :
    countTrue (x :: xs) = (if x then 1 else 0) + countTrue xs := by
  cases x <;> simp [countTrue, Nat.add_comm]

theorem countTrue_set (l : List Bool) (i : Nat) (v : Bool) (h : i < l.length) :
    countTrue (l.set i v) + (if l.getD i false then 1 else 0) = countTrue l + (if v then 1 else 0) := by
  rw [← List.getElem_eq_getD (h := h)]
  exact length_filter_set id v (List.getElem?_eq_getElem h)

theorem lt_length_of_getD (l : List Bool) (i : Nat) (h : l.getD i false = true) : i < l.length :=
  Nat.lt_of_not_le fun hn => by simp [List.getD_eq_getElem?_getD, List.getElem?_eq_none hn] at h

theorem countTrue_le_of_imp (a b : List Bool) (hl : a.length = b.length)
    (h : ∀ i, a.getD i false = true → b.getD i false = true) : countTrue a ≤ countTrue b := by
  induction a generalizing b with
  | nil => exact Nat.zero_le _
  | cons x xs ih =>
    cases b with
    | nil => exact absurd hl (by simp)
    | cons y ys =>
      have hrest := ih ys (Nat.succ.inj hl) (fun i => h (i + 1))
      have h0 : x = true → y = true := h 0
      rw [countTrue_cons, countTrue_cons]
      cases x
      · simp only [Bool.false_eq_true, if_false]; omega
      · simp only [h0 rfl, if_true]; omega

/-- with the slot `p` cleared `b` still lies above `a`, and counts one less -/
theorem countTrue_lt_of_gap (a b : List Bool) (hl : a.length = b.length)
    (h : ∀ i, a.getD i false = true → b.getD i false = true)
    (p : Nat) (hp : b.getD p false = true ∧ a.getD p false = false) : countTrue a < countTrue b := by
  have hpl := lt_length_of_getD b p hp.1
  have hle := countTrue_le_of_imp a (b.set p false) (by rw [List.length_set]; exact hl) (fun i hi => by
    rw [getD_set _ _ _ _ _ hpl]
    split
    · next e => rw [e, hp.2] at hi; exact absurd hi (by simp)
    · exact h i hi)
  have := countTrue_set b p false hpl
  rw [hp.1] at this
  simp only [if_true, Bool.false_eq_true, if_false] at this
  omega

theorem countTrue_pos_of_getD (l : List Bool) (i : Nat) (h : l.getD i false = true) : 1 ≤ countTrue l := by
  have := countTrue_set l i false (lt_length_of_getD l i h)
  rw [h] at this
  simp only [if_true, Bool.false_eq_true, if_false] at this
  omega

/-- what `setMatched` and `setTransmitted` do to a flag list and its counter — leave both alone if the flag has the value
    already, else write it and add or subtract one — is writing the flag and counting again; `k` is what is then done
    with the list and the number -/
theorem set_recount {β : Type} (l : List Bool) (i : Nat) (v : Bool) (h : i < l.length) (k : List Bool → Nat → β) :
    (if l.getD i false = v then k l (countTrue l) else k (l.set i v) (if v then countTrue l + 1 else countTrue l - 1))
      = k (l.set i v) (countTrue (l.set i v)) := by
  have hc := countTrue_set l i v h
  split
  · next e => rw [show l.set i v = l by rw [← e, ← List.getElem_eq_getD]; exact List.set_getElem_self h]
  · next e =>
    have ho : l.getD i false = !v := by cases v <;> simpa using e
    rw [ho] at hc
    congr 1
    cases v
    · exact (Nat.eq_sub_of_add_eq hc).symm
    · exact hc.symm

/-- the two counters count the set flags, a transmitted slot is a matched slot, the position is inside the ring -/
def StatsInv (s : Stats) : Prop :=
  s.matched.length = ringSize ∧ s.transmitted.length = ringSize ∧
  s.matchCount = countTrue s.matched ∧ s.transmitCount = countTrue s.transmitted ∧
  (∀ i, s.transmitted.getD i false = true → s.matched.getD i false = true) ∧ s.pos < ringSize

theorem setMatched_eq (s : Stats) (v : Bool) (hp : s.pos < s.matched.length)
    (hc : s.matchCount = countTrue s.matched) :
    setMatched s v = { s with matched := s.matched.set s.pos v, matchCount := countTrue (s.matched.set s.pos v) } := by
  obtain ⟨pos, lc, m, t, mc, tc⟩ := s
  obtain rfl : mc = countTrue m := hc
  exact set_recount m pos v hp (fun l c => (⟨pos, lc, l, t, c, tc⟩ : Stats))

theorem setTransmitted_eq (s : Stats) (v : Bool) (hp : s.pos < s.transmitted.length)
    (hc : s.transmitCount = countTrue s.transmitted) :
    setTransmitted s v
      = { s with transmitted := s.transmitted.set s.pos v, transmitCount := countTrue (s.transmitted.set s.pos v) } := by
  obtain ⟨pos, lc, m, t, mc, tc⟩ := s
  obtain rfl : tc = countTrue t := hc
  exact set_recount t pos v hp (fun l c => (⟨pos, lc, m, l, mc, c⟩ : Stats))

theorem ringSize_pos : 0 < ringSize := by decide

/-- the second flag: the line was sent (a match that was not skipped for a full queue) -/
theorem processLine_sets (canSkip : Bool) (s : Stats) (isMatch full : Bool) :
    (processLine canSkip s isMatch full).1
      = setTransmitted (setMatched (updatePosition s) isMatch) (isMatch && !(canSkip && full)) := by
  cases isMatch
  · rfl
  · cases canSkip
    · rfl
    · cases full <;> rfl

theorem processLine_fate (canSkip : Bool) (s : Stats) (isMatch full : Bool) :
    (processLine canSkip s isMatch full).2.1
      = if !isMatch then .notMatched else if canSkip && full then .dropped else .delivered := by
  cases isMatch
  · rfl
  · cases canSkip
    · rfl
    · cases full <;> rfl

theorem processLine_ring (canSkip : Bool) (s : Stats) (isMatch full : Bool) (h : StatsInv s) :
    (processLine canSkip s isMatch full).1 =
      let p := (s.pos + 1) % ringSize
      let m := s.matched.set p isMatch
      let t := s.transmitted.set p (isMatch && !(canSkip && full))
      ⟨p, s.lineCount + 1, m, t, countTrue m, countTrue t⟩ := by
  obtain ⟨hml, htl, hmc, htc, -, -⟩ := h
  have hp : (updatePosition s).pos < ringSize := Nat.mod_lt _ ringSize_pos
  rw [processLine_sets, setMatched_eq (updatePosition s) _ (by rw [← hml] at hp; exact hp) hmc, setTransmitted_eq]
  · rfl
  · rw [← htl] at hp; exact hp
  · exact htc

theorem processLine_pos (canSkip : Bool) (s : Stats) (isMatch full : Bool) (h : StatsInv s) :
    (processLine canSkip s isMatch full).1.pos = (s.pos + 1) % ringSize := by
  rw [processLine_ring canSkip s isMatch full h]

theorem processLine_slot (canSkip : Bool) (s : Stats) (isMatch full : Bool) (h : StatsInv s) (q : Nat) :
    (processLine canSkip s isMatch full).1.matched.getD q false
      = (if q = (s.pos + 1) % ringSize then isMatch else s.matched.getD q false) ∧
    (processLine canSkip s isMatch full).1.transmitted.getD q false
      = (if q = (s.pos + 1) % ringSize then isMatch && !(canSkip && full) else s.transmitted.getD q false) := by
  rw [processLine_ring canSkip s isMatch full h]
  have hp : (s.pos + 1) % ringSize < ringSize := Nat.mod_lt _ ringSize_pos
  exact ⟨getD_set _ _ _ _ _ (by rw [h.1]; exact hp), getD_set _ _ _ _ _ (by rw [h.2.1]; exact hp)⟩

theorem processLine_inv (canSkip : Bool) (s : Stats) (isMatch full : Bool) (h : StatsInv s) :
    StatsInv (processLine canSkip s isMatch full).1 := by
  have hslot := processLine_slot canSkip s isMatch full h
  rw [processLine_ring canSkip s isMatch full h] at hslot ⊢
  obtain ⟨hlm, hlt, -, -, hsub, -⟩ := h
  refine ⟨by simp [hlm], by simp [hlt], rfl, rfl, fun i hi => ?_, Nat.mod_lt _ ringSize_pos⟩
  rw [(hslot i).2] at hi
  rw [(hslot i).1]
  split
  · next e => rw [if_pos e] at hi; exact (Bool.and_eq_true _ _ ▸ hi).1
  · next e => rw [if_neg e] at hi; exact hsub i hi

theorem processLine_delivered_perc (canSkip : Bool) (s : Stats) (isMatch full : Bool)
    (h : (processLine canSkip s isMatch full).2.1 = .delivered) :
    (processLine canSkip s isMatch full).2.2.2
      = percentOf (processLine canSkip s isMatch full).1.matchCount (processLine canSkip s isMatch full).1.transmitCount
    ∧ (processLine canSkip s isMatch full).2.2.1 = (processLine canSkip s isMatch full).1.lineCount := by
  unfold processLine at h ⊢
  cases isMatch with
  | false => simp at h
  | true =>
    by_cases hd : canSkip = true ∧ full = true
    · simp [hd] at h
    · simp [hd]

theorem statsInit_inv : StatsInv statsInit :=
  -- the two flag lists are the same list: a transmitted slot is a matched slot
  ⟨List.length_replicate, List.length_replicate, by simp [statsInit, countTrue], by simp [statsInit, countTrue],
    fun _ hi => hi, by decide⟩

theorem percentOf_le_div (m t : Nat) (h : ¬ (m = 0 ∨ m = t)) : percentOf m t ≤ 100 * t / m := by
  unfold percentOf
  rw [if_neg h]
  split
  · exact Nat.sub_le _ _
  · exact Nat.le_refl _

theorem percentOf_lt (m t : Nat) (h : t < m) : percentOf m t < 100 :=
  Nat.lt_of_le_of_lt (percentOf_le_div m t (by omega))
    ((Nat.div_lt_iff_lt_mul (Nat.zero_lt_of_lt h)).2 (Nat.mul_lt_mul_of_pos_left h (by decide)))

theorem mod_ne_of_lt (x d n : Nat) (hd : 0 < d) (hdn : d < n) : x % n ≠ (x + d) % n := by
  intro e
  have h0 := Nat.sub_mod_eq_zero_of_mod_eq e.symm
  rw [Nat.add_sub_cancel_left, Nat.mod_eq_of_lt hdn] at h0
  exact Nat.ne_of_gt hd h0

end Dtail

namespace Dtail.C04

/-- the ring after a sequence of lines (regex answer and queue state per line) -/
def runLines (canSkip : Bool) (s : Stats) : List (Bool × Bool) → Stats
  | [] => s
  | (mt, full) :: rest => runLines canSkip (processLine canSkip s mt full).1 rest

theorem runLines_append (canSkip : Bool) (s : Stats) (a b : List (Bool × Bool)) :
    runLines canSkip s (a ++ b) = runLines canSkip (runLines canSkip s a) b := by
  induction a generalizing s with
  | nil => rfl
  | cons p a ih => exact ih _

theorem runLines_inv (canSkip : Bool) : ∀ (ls : List (Bool × Bool)) (s : Stats), StatsInv s →
    StatsInv (runLines canSkip s ls)
  | [], _, h => h
  | (mt, full) :: rest, s, h => runLines_inv canSkip rest _ (processLine_inv canSkip s mt full h)

/-- a slot `d ≤ ringSize` steps ahead of the position keeps its flags through fewer than `d` lines: none of them lands on it -/
theorem runLines_slot (canSkip : Bool) (q : Nat) : ∀ (ls : List (Bool × Bool)) (s : Stats) (d : Nat), StatsInv s →
    ls.length < d → d ≤ ringSize → (s.pos + d) % ringSize = q →
    (runLines canSkip s ls).matched.getD q false = s.matched.getD q false ∧
    (runLines canSkip s ls).transmitted.getD q false = s.transmitted.getD q false := by
  intro ls
  induction ls with
  | nil => exact fun s _ _ _ _ _ => ⟨rfl, rfl⟩
  | cons l ls ih =>
    intro s d h hlen hd hq
    cases d with
    | zero => exact absurd hlen (Nat.not_lt_zero _)
    | succ e =>
      have he : ls.length < e := Nat.lt_of_succ_lt_succ hlen
      -- the line lands one step ahead; the slot is `e > 0` steps further, and that is less than a whole turn
      have hq' : (s.pos + 1 + e) % ringSize = q := Nat.add_right_comm s.pos 1 e ▸ hq
      have hne : q ≠ (s.pos + 1) % ringSize := hq' ▸ (mod_ne_of_lt _ _ _ (Nat.zero_lt_of_lt he) hd).symm
      obtain ⟨hm, ht⟩ := processLine_slot canSkip s l.1 l.2 h q
      rw [if_neg hne] at hm ht
      obtain ⟨hm', ht'⟩ := ih _ e (processLine_inv canSkip s l.1 l.2 h) he (Nat.le_of_lt hd)
        (by rw [processLine_pos canSkip s l.1 l.2 h, Nat.mod_add_mod]; exact hq')
      exact ⟨hm'.trans hm, ht'.trans ht⟩

end Dtail.C04
