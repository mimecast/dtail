/-
`strings.Split`, `SplitN` and `Join` for a one-byte separator.  All splitters cut at the first occurrence of the separator
(`splitFirst_some`, `splitFirst_append_sep`, `splitOnByte_eq`); splitting and joining are inverse to each other where the
pieces do not contain the separator.
-/
import DtailModel.Model.Command
namespace Dtail

theorem splitFirst_some {sep : UInt8} {s p r : Bytes} (h : splitFirst sep s = some (p, r)) :
    s = p ++ sep :: r ∧ sep ∉ p := by
  fun_induction splitFirst sep s generalizing p r with
  | case1 => cases h
  | case2 bs => cases h; exact ⟨rfl, List.not_mem_nil⟩
  | case3 b bs hb hs => cases h
  | case4 b bs hb p' r' hs ih =>
    cases h
    exact ⟨congrArg (b :: ·) (ih hs).1, List.not_mem_cons_of_ne_of_not_mem (Ne.symm hb) (ih hs).2⟩

theorem splitFirst_append_sep (sep : UInt8) (a b : Bytes) (h : sep ∉ a) :
    splitFirst sep (a ++ sep :: b) = some (a, b) := by
  induction a with
  | nil => simp [splitFirst]
  | cons x xs ih =>
    rw [List.mem_cons, not_or] at h
    simp [splitFirst, Ne.symm h.1, ih h.2]

theorem splitFirst_nosep (sep : UInt8) (a : Bytes) (h : sep ∉ a) : splitFirst sep a = none := by
  cases hs : splitFirst sep a with
  | none => rfl
  | some pr => exact absurd ((splitFirst_some hs).1 ▸ List.mem_append_right _ List.mem_cons_self) h

theorem splitOnByte_eq (sep : UInt8) (s : Bytes) :
    splitOnByte sep s = match splitFirst sep s with
      | none => [s]
      | some (p, r) => p :: splitOnByte sep r := by
  induction s with
  | nil => rfl
  | cons b bs ih =>
    rw [splitOnByte, splitFirst]
    split
    · rfl
    · rw [ih]; cases splitFirst sep bs <;> rfl

theorem splitOnByte_ne_nil (sep : UInt8) (s : Bytes) : splitOnByte sep s ≠ [] := by
  rw [splitOnByte_eq]
  split <;> exact List.cons_ne_nil _ _

theorem length_splitOnByte_pos (sep : UInt8) (s : Bytes) : 0 < (splitOnByte sep s).length :=
  List.length_pos_iff.2 (splitOnByte_ne_nil sep s)

theorem splitOnByte_nosep (sep : UInt8) (a : Bytes) (h : sep ∉ a) : splitOnByte sep a = [a] := by
  rw [splitOnByte_eq, splitFirst_nosep sep a h]

theorem splitOnByte_append_sep (sep : UInt8) (a b : Bytes) (h : sep ∉ a) :
    splitOnByte sep (a ++ sep :: b) = a :: splitOnByte sep b := by
  rw [splitOnByte_eq, splitFirst_append_sep sep a b h]

theorem splitOnByte_parts_nosep (sep : UInt8) (s : Bytes) : ∀ x ∈ splitOnByte sep s, sep ∉ x := by
  induction s with
  | nil => exact List.forall_mem_singleton.2 List.not_mem_nil
  | cons b bs ih =>
    rw [splitOnByte]
    by_cases hb : b = sep
    · rw [if_pos hb]
      exact List.forall_mem_cons.2 ⟨List.not_mem_nil, ih⟩
    · rw [if_neg hb]
      -- `b` goes in front of the first piece of the rest
      cases hs : splitOnByte sep bs with
      | nil => exact absurd hs (splitOnByte_ne_nil sep bs)
      | cons h t =>
        rw [hs, List.forall_mem_cons] at ih
        exact List.forall_mem_cons.2 ⟨List.not_mem_cons_of_ne_of_not_mem (Ne.symm hb) ih.1, ih.2⟩

theorem joinByte_cons (sep : UInt8) (x : Bytes) (l : List Bytes) (h : l ≠ []) :
    joinByte sep (x :: l) = x ++ sep :: joinByte sep l := by
  cases l with
  | nil => exact absurd rfl h
  | cons y r => rfl

theorem joinByte_cons_cons (sep b : UInt8) (h : Bytes) (t : List Bytes) :
    joinByte sep ((b :: h) :: t) = b :: joinByte sep (h :: t) := by
  cases t <;> rfl

theorem joinByte_eq_flatMap (sep : UInt8) (x : Bytes) (rest : List Bytes) :
    joinByte sep (x :: rest) = x ++ rest.flatMap (fun y => sep :: y) := by
  induction rest generalizing x with
  | nil => simp [joinByte]
  | cons y ys ih => simp only [joinByte, List.flatMap_cons, ih y]; simp

theorem joinByte_splitOnByte (sep : UInt8) (s : Bytes) : joinByte sep (splitOnByte sep s) = s := by
  induction s with
  | nil => rfl
  | cons b bs ih =>
    rw [splitOnByte]
    by_cases hb : b = sep
    · rw [if_pos hb, joinByte_cons _ _ _ (splitOnByte_ne_nil sep bs), ih, hb]; rfl
    · rw [if_neg hb]
      cases hs : splitOnByte sep bs with
      | nil => exact absurd hs (splitOnByte_ne_nil sep bs)
      | cons h t => rw [hs] at ih; rw [joinByte_cons_cons, ih]

theorem splitOnByte_joinByte (sep : UInt8) (l : List Bytes) (hne : l ≠ [])
    (h : ∀ x ∈ l, sep ∉ x) : splitOnByte sep (joinByte sep l) = l := by
  induction l with
  | nil => exact absurd rfl hne
  | cons x rest ih =>
    have hx := h x List.mem_cons_self
    cases rest with
    | nil => exact splitOnByte_nosep sep x hx
    | cons y r =>
      rw [joinByte, splitOnByte_append_sep sep x _ hx, ih (List.cons_ne_nil _ _) fun z hz => h z (List.mem_cons_of_mem _ hz)]

theorem not_mem_joinByte (x sep : UInt8) (l : List Bytes) (hx : x ≠ sep) (h : ∀ y ∈ l, x ∉ y) :
    x ∉ joinByte sep l := by
  induction l with
  | nil => exact List.not_mem_nil
  | cons a rest ih =>
    have ha := h a List.mem_cons_self
    cases rest with
    | nil => exact ha
    | cons b r =>
      rw [joinByte]
      exact List.not_mem_append ha (List.not_mem_cons_of_ne_of_not_mem hx
        (ih fun y hy => h y (List.mem_cons_of_mem _ hy)))

theorem splitN_ne_nil (sep : UInt8) (n : Nat) (s : Bytes) : splitN sep (n + 1) s ≠ [] := by
  cases n with
  | zero => simp [splitN]
  | succ n => simp only [splitN]; split <;> simp

theorem joinByte_splitN (sep : UInt8) (n : Nat) (s : Bytes) : joinByte sep (splitN sep (n + 1) s) = s := by
  induction n generalizing s with
  | zero => rfl
  | succ n ih =>
    simp only [splitN]
    split
    · rfl
    · rename_i p r hs
      rw [joinByte_cons _ _ _ (splitN_ne_nil sep n r), ih]
      exact (splitFirst_some hs).1.symm

theorem splitN_length_le (sep : UInt8) (n : Nat) (s : Bytes) : (splitN sep n s).length ≤ n := by
  fun_induction splitN sep n s with
  | case1 | case2 | case3 => simp
  | case4 n s p r _ ih => exact Nat.succ_le_succ ih

theorem splitN2_append_sep (sep : UInt8) (a b : Bytes) (h : sep ∉ a) :
    splitN2 sep (a ++ sep :: b) = [a, b] := by
  simp [splitN2, splitN, splitFirst_append_sep sep a b h]

theorem splitN2_contains (sep : UInt8) (a : Bytes) (h : a.contains sep = true) : (splitN2 sep a).length = 2 := by
  obtain ⟨s, t, rfl, hs⟩ := List.eq_append_cons_of_mem (List.contains_iff_mem.1 h)
  rw [splitN2_append_sep sep s t hs]
  rfl

theorem splitN2_nosep (sep : UInt8) (a : Bytes) (h : sep ∉ a) : splitN2 sep a = [a] := by
  simp [splitN2, splitN, splitFirst_nosep sep a h]

end Dtail
