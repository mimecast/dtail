/-
The connection counter of Model/Conn.lean as a transition system: every step changes the counter and the number of open
connections by the same amount.
-/
import DtailModel.Model.Conn
import DtailModel.Lemmas.LTS
namespace Dtail

theorem connIsRun : IsRun connStep connRun := ⟨fun _ => rfl, fun _ _ _ => rfl⟩

theorem openCount_set (cs : List CPhase) (i : Nat) (old new : CPhase) (h : cs[i]? = some old) :
    openCount (cs.set i new) + (if isOpen old then 1 else 0) = openCount cs + (if isOpen new then 1 else 0) :=
  length_filter_set isOpen new h

theorem openCount_append (cs : List CPhase) (p : CPhase) :
    openCount (cs ++ [p]) = openCount cs + (if isOpen p then 1 else 0) := by
  simp only [openCount, List.filter_append, List.length_append, List.filter_cons, List.filter_nil]
  cases isOpen p <;> rfl

theorem connStep_spec {s s' : ConnState} {l : CLabel} (hs : connStep s l = some s') :
    s'.max = s.max ∧
      ((openCount s'.conns = openCount s.conns ∧ s'.counter = s.counter) ∨
       (s.counter < s.max ∧ openCount s'.conns = openCount s.conns + 1 ∧ s'.counter = s.counter + 1) ∨
       (openCount s'.conns + 1 = openCount s.conns ∧ s'.counter = s.counter - 1)) := by
  -- for a concrete phase the `if isOpen … then 1 else 0` of the two counting lemmas is a numeral
  cases l <;> simp only [connStep, Option.ite_none_right_eq_some, Option.some.injEq] at hs
  case connect =>
    by_cases hm : s.counter ≥ s.max
    · rw [if_pos hm] at hs; cases hs
      exact ⟨rfl, .inl ⟨openCount_append _ _, rfl⟩⟩
    · rw [if_neg hm] at hs; cases hs
      exact ⟨rfl, .inr (.inl ⟨Int.lt_of_not_ge hm, openCount_append _ _, rfl⟩)⟩
  case handshakeOk =>
    obtain ⟨hg, rfl⟩ := hs
    exact ⟨rfl, .inl ⟨Nat.add_right_cancel (openCount_set _ _ .handshaking .authenticated hg), rfl⟩⟩
  case handshakeFail | close =>
    obtain ⟨hg, rfl⟩ := hs
    exact ⟨rfl, .inr (.inr ⟨openCount_set _ _ _ .closed hg, rfl⟩)⟩
  case shell =>
    obtain ⟨hg, rfl⟩ := hs
    exact ⟨rfl, .inl ⟨rfl, rfl⟩⟩

/-- the reported number of connections equals the number actually open (handshaking or authenticated), so is never
    negative, and never exceeds MaxConnections -/
def C14.Inv (s : ConnState) : Prop := s.counter = (openCount s.conns : Int) ∧ openCount s.conns ≤ s.max

theorem connStep_inv (s s' : ConnState) (l : CLabel) (h : C14.Inv s) (hs : connStep s l = some s') :
    C14.Inv s' ∧ s'.max = s.max := by
  obtain ⟨hmax, hkind⟩ := connStep_spec hs
  obtain ⟨hc, hm⟩ := h
  refine ⟨?_, hmax⟩
  unfold C14.Inv
  omega

end Dtail
