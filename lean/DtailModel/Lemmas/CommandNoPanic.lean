/-
The command path never panics (C10): every Go indexing / slicing operation of the server's
decode-and-dispatch code stands under an argument-count or length test that covers it, for every command string.
-/
import DtailModel.Lemmas.QueryNoPanic
import DtailModel.Lemmas.Command
namespace Dtail

theorem deserializeOptions_noPanic (env : Env) (l : List Bytes) (o : List (Bytes × Bytes)) (c : LCtx) :
    (deserializeOptions env l o c).NoPanic := by
  induction l generalizing o c with
  | nil => trivial
  | cons x rest ih =>
    rw [deserializeOptions_cons]
    exact sat_bind (optStep_noPanic env x o c) fun r _ => ih r.1 r.2

theorem regexDeserialize_noPanic (env : Env) (s : Bytes) : (regexDeserialize env s).NoPanic := by
  unfold regexDeserialize
  extract_lets p
  refine sat_ite (fun _ => trivial) fun _ => ?_
  refine sat_index (k := 0) (by omega) fun flagsStr => sat_index (k := 1) (by omega) fun regexStr => ?_
  refine sat_ite (fun _ => trivial) fun _ => ?_
  -- `k`: an empty flag list is replaced by the default flag before `flags[0]`
  extract_lets k
  have hk : ∀ flags, (k flags).NoPanic := fun flags => by
    unfold k
    extract_lets flags'
    refine sat_ite (fun _ => trivial) fun _ => sat_index (k := 0) ?_ fun _ => trivial
    unfold flags'
    split
    · exact Nat.zero_lt_one
    · omega
  split
  · next hc => exact sat_index (k := 1) (by rw [splitN2_contains _ _ hc]; omega) fun _ => hk _
  · exact hk _

theorem readStart_noPanic (env : Env) (mode : Mode) (ltx : LCtx) (args : List Bytes) :
    (readStart env mode ltx args.length args).NoPanic := by
  unfold readStart
  -- `k`: what is done with the regex; `args[1]` stands under `¬ argc < 3`
  extract_lets k
  have hk : ∀ re, (k re).NoPanic := fun re => by
    unfold k
    cases re with
    | none => trivial
    | some re => exact sat_ite (fun _ => trivial) fun _ => sat_index (k := 1) (by omega) fun _ => trivial
  split
  · refine sat_sliceFrom (by omega) fun tail => ?_
    have hre := regexDeserialize_noPanic env (joinByte SP tail)
    cases hr : regexDeserialize env (joinByte SP tail) with
    | ok r => exact hk (some r)
    | err e => exact hk none
    | panic p => rw [hr] at hre; cases hre
  · exact hk (some _)

theorem mapStart_noPanic (env : Env) (args : List Bytes) (h : 0 < args.length) : (mapStart env args).NoPanic := by
  unfold mapStart
  refine sat_sliceFrom (by omega) fun tail => ?_
  have hq := newQuery_noPanic env.fl (joinByte SP tail)
  cases hr : newQuery env.fl (joinByte SP tail) with
  | ok q => cases q <;> trivial
  | err e => trivial
  | panic p => rw [hr] at hq; cases hq

theorem ackStart_noPanic (args : List Bytes) : (ackStart args.length args).NoPanic := by
  unfold ackStart
  exact sat_ite (fun _ => trivial) fun _ =>
    sat_index (k := 1) (by omega) fun _ => sat_index (k := 2) (by omega) fun _ => trivial

theorem userCommand_noPanic (env : Env) (ltx : LCtx) (args : List Bytes) (name : Bytes) (h : 0 < args.length) :
    (userCommand env ltx args.length args name).NoPanic := by
  unfold userCommand
  refine sat_ite (fun _ => readStart_noPanic ..) fun _ => sat_ite (fun _ => readStart_noPanic ..) fun _ => ?_
  exact sat_ite (fun _ => mapStart_noPanic env args h) fun _ => sat_ite (fun _ => ackStart_noPanic args) fun _ => trivial

/-- the postcondition is what `handleUserCommand` relies on for its indexing -/
theorem decodeCommand_sat (env : Env) (cmd : Bytes) :
    (decodeCommand env cmd).Sat fun d => 0 < d.args.length ∧ d.argc = d.args.length := by
  have inner : ∀ decoded, (decodeInner env decoded).Sat fun d => 0 < d.args.length ∧ d.argc = d.args.length := fun decoded => by
    have hpos := length_splitOnByte_pos SP decoded
    rw [decodeInner, decodeArgs_eq _ _ (splitOnByte_ne_nil _ _), decodeParts_eq _ _ _ (splitOnByte_ne_nil _ _)]
    exact sat_ite (fun _ => ⟨hpos, rfl⟩) fun _ => sat_bind (deserializeOptions_noPanic ..) fun _ _ => ⟨hpos, rfl⟩
  rw [decodeCommand, decodeEnvelope_eq _ _ (splitOnByte_ne_nil _ _)]
  refine sat_ite (fun _ => sat_ite (fun _ => sat_ite (fun _ => ?_) fun _ => trivial) fun _ => trivial) fun _ => trivial
  cases env.b64dec _ with
  | none => trivial
  | some decoded => exact inner decoded

theorem handleCommand_noPanic (env : Env) (cmd : Bytes) : (handleCommand env cmd).NoPanic := by
  unfold handleCommand
  have hd := decodeCommand_sat env cmd
  cases hr : decodeCommand env cmd with
  | panic p => rw [hr] at hd; cases hd
  | err e => trivial
  | ok d =>
    rw [hr] at hd
    obtain ⟨hpos, hargc⟩ : 0 < d.args.length ∧ d.argc = d.args.length := hd
    dsimp only
    rw [hargc]
    exact sat_bind (userCommand_noPanic env d.ltx d.args d.name hpos) fun _ _ => trivial

end Dtail
