/-
The client's option serialisation, `Args.SerializeOptions` of internal/config/args.go (`Gen.ClientArgs`).  It collects the options
in a Go map and ranges over it; the order of that range is the parameter `ext.mapOrder`, assumed only to permute the entries.
So the text is the ':'-join of the request's rendered options in *some* order — which is what the server's decoder is proved to
cope with (`C12_generated_options_any_order`).
-/
import DtailModel.Generated.Code
import DtailModel.Lemmas.GoRT
import DtailModel.Lemmas.OptionOrder
namespace Dtail.GenSerialize
open Dtail Dtail.Go Dtail.Gen.ClientArgs Dtail.OptionOrder

/-- `optsOf` reads only the modes and the line context; the other fields of the `Req` are fillers -/
def reqOf (a : Args) : Req :=
  ⟨[], a.Quiet, a.Plain, a.Serverless, ⟨a.LContext.BeforeContext, a.LContext.AfterContext, a.LContext.MaxCount⟩, [], [], false⟩

/-- an option as the map entry `SerializeOptions` makes of it -/
def kv (ext : Ext) : Opt → GoString × GoString
  | .quiet => (b!"quiet", b!"true") | .plain => (b!"plain", b!"true") | .serverless => (b!"serverless", b!"true")
  | .max n => (b!"max", ext.fmtInt n) | .before n => (b!"before", ext.fmtInt n) | .after n => (b!"after", ext.fmtInt n)

theorem kv_eq (ext : Ext) (x : Opt) : kv ext x = (x.key, x.val ext.fmtInt) := by cases x <;> rfl

theorem kv_render (ext : Ext) (o : Opt) : (kv ext o).1 ++ [61] ++ (kv ext o).2 = OptionOrder.render ext.fmtInt o := by
  cases o <;> rfl

theorem entries_foldl (ext : Ext) (xs pre : List Opt) (m : GoMap GoString GoString) (hm : m.entries = pre.map (kv ext))
    (hn : ((pre ++ xs).map Opt.kind).Nodup) :
    (xs.foldl (fun m x => m.set (kv ext x).1 (kv ext x).2) m).entries = (pre ++ xs).map (kv ext) := by
  induction xs generalizing m pre with
  | nil => simpa using hm
  | cons x rest ih =>
    have hx : ∀ e ∈ m.entries, (e.1 == (kv ext x).1) = false := by
      intro e he
      rw [hm] at he
      obtain ⟨y, hy, rfl⟩ := List.mem_map.1 he
      rw [kv_eq, kv_eq, beq_eq_false_iff_ne]
      intro hk
      simp only [List.map_append, List.map_cons, List.nodup_append] at hn
      exact hn.2.2 _ (List.mem_map_of_mem hy) _ List.mem_cons_self (kind_eq_of_key_eq hk)
    have := ih (pre ++ [x]) (m.set (kv ext x).1 (kv ext x).2) (by rw [GoMap.set_fresh _ _ _ hx, hm, List.map_append]; rfl)
      (by simpa using hn)
    simpa using this

theorem foldl_ite {α σ : Type} (c : Prop) [Decidable c] (f : σ → α → σ) (s : σ) (x : α) :
    (if c then [x] else []).foldl f s = if c then f s x else s := by
  split <;> rfl

theorem options_entries (ext : Ext) (a : Args) :
    (let options := (GoZero.zero : (GoMap GoString GoString))
     let options := if a.Quiet then (GoIndex.upd options ([113, 117, 105, 101, 116] : GoString) (GoFmt.fmt ext a.Quiet)) else options
     let options := if a.Plain then (GoIndex.upd options ([112, 108, 97, 105, 110] : GoString) (GoFmt.fmt ext a.Plain)) else options
     let options := if a.Serverless then (GoIndex.upd options ([115, 101, 114, 118, 101, 114, 108, 101, 115, 115] : GoString) (GoFmt.fmt ext a.Serverless)) else options
     let options := if (a.LContext.MaxCount != 0) then (GoIndex.upd options ([109, 97, 120] : GoString) (GoFmt.fmt ext a.LContext.MaxCount)) else options
     let options := if (a.LContext.BeforeContext != 0) then (GoIndex.upd options ([98, 101, 102, 111, 114, 101] : GoString) (GoFmt.fmt ext a.LContext.BeforeContext)) else options
     let options := if (a.LContext.AfterContext != 0) then (GoIndex.upd options ([97, 102, 116, 101, 114] : GoString) (GoFmt.fmt ext a.LContext.AfterContext)) else options
     options).entries = (optsOf (reqOf a)).map (kv ext) := by
  refine .trans ?_ (entries_foldl ext (optsOf (reqOf a)) [] GoZero.zero rfl (optsOf_nodup _))
  have hb (q : Bool) (m : GoMap GoString GoString) (k : GoString) :
      (if q then GoIndex.upd m k (GoFmt.fmt ext q) else m) = if q then m.set k (b!"true") else m := by cases q <;> rfl
  simp only [optsOf, List.foldl_append, foldl_ite, hb, bne_iff_ne]
  rfl

/-- `k=v` -/
def item (e : GoString × GoString) : Bytes := e.1 ++ [61] ++ e.2

/-- the range loop of `SerializeOptions`, copied from the generated text -/
theorem loop_pos (a : Args) : ∀ (l : List (GoString × GoString)) (i : Int) (sb : GoString), 0 < i →
    goRange l (i, sb)
      (fun (i, sb) (k, v) =>
        if (decide (i > 0)) then
          let sb := sb ++ ([58] : GoString)
          let sb := sb ++ k
          let sb := sb ++ ([61] : GoString)
          let sb := sb ++ v
          let i := (i + 1)
          (LoopStep.next (i, sb) : LoopStep (Args × GoString) (Int × GoString))
        else
          let sb := sb ++ k
          let sb := sb ++ ([61] : GoString)
          let sb := sb ++ v
          let i := (i + 1)
          LoopStep.next (i, sb))
      (fun (i, sb) => (a, sb))
    = (a, sb ++ l.flatMap (fun e => COLON :: item e)) := by
  intro l
  induction l with
  | nil => intro i sb _; simp [goRange]
  | cons e rest ih =>
    intro i sb hi
    rw [goRange_cons]
    have : decide (i > 0) = true := by guard_tac
    simp only [this, if_true]
    rw [ih (i + 1) _ (by omega)]
    simp [item, COLON, List.append_assoc]

theorem loop_zero (a : Args) (l : List (GoString × GoString)) :
    goRange l ((0 : Int), ([] : GoString))
      (fun (i, sb) (k, v) =>
        if (decide (i > 0)) then
          let sb := sb ++ ([58] : GoString)
          let sb := sb ++ k
          let sb := sb ++ ([61] : GoString)
          let sb := sb ++ v
          let i := (i + 1)
          (LoopStep.next (i, sb) : LoopStep (Args × GoString) (Int × GoString))
        else
          let sb := sb ++ k
          let sb := sb ++ ([61] : GoString)
          let sb := sb ++ v
          let i := (i + 1)
          LoopStep.next (i, sb))
      (fun (i, sb) => (a, sb))
    = (a, joinByte COLON (l.map item)) := by
  cases l with
  | nil => simp [goRange, joinByte]
  | cons e rest =>
    rw [goRange_cons]
    have : decide ((0 : Int) > 0) = false := by decide
    simp only [this, Bool.false_eq_true, if_false]
    rw [loop_pos a rest (0 + 1) _ (by omega), List.map_cons, joinByte_eq_flatMap]
    simp [item, List.flatMap_map]

theorem perm_map_inv {α β : Type} [DecidableEq α] (f : α → β) : ∀ (l' : List β) (l : List α), l'.Perm (l.map f) →
    ∃ ys : List α, ys.Perm l ∧ ys.map f = l' := by
  intro l'
  induction l' with
  | nil =>
    intro l h
    have : l.map f = [] := List.Perm.eq_nil (h.symm)
    have : l = [] := by simpa using this
    exact ⟨[], by rw [this], rfl⟩
  | cons b t ih =>
    intro l h
    have hb : b ∈ l.map f := h.subset (by simp)
    obtain ⟨x, hx, rfl⟩ := List.mem_map.1 hb
    have hp : l.Perm (x :: l.erase x) := List.perm_cons_erase hx
    have hp2 : (f x :: t).Perm (f x :: (l.erase x).map f) := h.trans (by simpa using hp.map f)
    obtain ⟨ys, hys, hm⟩ := ih (l.erase x) (List.Perm.cons_inv hp2)
    exact ⟨x :: ys, (List.Perm.cons x hys).trans hp.symm, by simp [hm]⟩

/-- `hperm` is all that is assumed of Go's map iteration -/
theorem SerializeOptions_spec (ext : Ext) (hperm : ∀ l, (ext.mapOrder l).Perm l) (a : Args) :
    ∃ ys : List Opt, ys.Perm (optsOf (reqOf a)) ∧
      Args.SerializeOptions ext a = (a, joinByte COLON (ys.map (OptionOrder.render ext.fmtInt))) := by
  unfold Args.SerializeOptions
  have he := options_entries ext a
  simp only [] at he ⊢
  rw [he]
  obtain ⟨ys, hys, hm⟩ := perm_map_inv (kv ext) _ _ (hperm ((optsOf (reqOf a)).map (kv ext)))
  refine ⟨ys, hys, ?_⟩
  have hz : (GoZero.zero : Int) = 0 := rfl
  have hzs : (GoZero.zero : GoString) = [] := rfl
  rw [hz, hzs, loop_zero a, ← hm, List.map_map]
  congr 2
  apply List.map_congr_left
  intro o _
  exact kv_render ext o

end Dtail.GenSerialize
