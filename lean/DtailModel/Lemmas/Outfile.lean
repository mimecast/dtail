/-
Lemmas about the outfile model (`Model/Outfile.lean`): the file system as a finite map, the operations that leave a path
alone, and the two steps the writer's protocol is made of — a file opened afresh and written to holds what was written,
and a rename carries that over to the destination.
-/
import DtailModel.Model.Outfile
import DtailModel.Lemmas.ListFacts
namespace Dtail

theorem fsGet_fsSet (fs : FS) (p q : Bytes) (c : Bytes) :
    fsGet (fsSet fs p c) q = if q = p then some c else fsGet fs q :=
  find?_store fs p c q

theorem fsGet_fsDel (fs : FS) (p q : Bytes) :
    fsGet (fsDel fs p) q = if q = p then none else fsGet fs q := by
  rw [fsGet, fsDel, find?_filter_ne]
  split <;> rfl

def FOp.touches : FOp → Bytes → Bool
  | .openTrunc p, q => p == q
  | .openAppend p, q => p == q
  | .write p _, q => p == q
  | .rename s d, q => s == q || d == q

theorem applyOp_untouched (fs : FS) (op : FOp) (q : Bytes) (h : op.touches q = false) :
    fsGet (applyOp fs op) q = fsGet fs q := by
  cases op <;> simp only [FOp.touches, Bool.or_eq_false_iff, beq_eq_false_iff_ne, ne_eq, eq_comm (b := q)] at h <;>
    rw [applyOp]
  · rw [fsGet_fsSet, if_neg h]
  · split
    · rw [fsGet_fsSet, if_neg h]
    · rfl
  · rw [fsGet_fsSet, if_neg h]
  · split
    · rfl
    · rw [fsGet_fsSet, if_neg h.2, fsGet_fsDel, if_neg h.1]

theorem touches_rename {s d q : Bytes} (hs : s ≠ q) (hd : d ≠ q) : (FOp.rename s d).touches q = false :=
  Bool.or_eq_false_iff.2 ⟨beq_eq_false_iff_ne.2 hs, beq_eq_false_iff_ne.2 hd⟩

theorem applyOps_cons (fs : FS) (op : FOp) (ops : List FOp) : applyOps fs (op :: ops) = applyOps (applyOp fs op) ops := rfl

theorem applyOps_untouched (fs : FS) (ops : List FOp) (q : Bytes)
    (h : ∀ op ∈ ops, op.touches q = false) : fsGet (applyOps fs ops) q = fsGet fs q :=
  List.foldlRecOn ops applyOp (motive := fun fs' => fsGet fs' q = fsGet fs q) rfl fun fs' ih op hop =>
    (applyOp_untouched fs' op q (h op hop)).trans ih

theorem applyOps_append (fs : FS) (a b : List FOp) : applyOps fs (a ++ b) = applyOps (applyOps fs a) b := List.foldl_append

theorem applyOps_concat (fs : FS) (ops : List FOp) (op : FOp) : applyOps fs (ops ++ [op]) = applyOp (applyOps fs ops) op :=
  applyOps_append fs ops [op]

def writesData : List FOp → Bytes
  | [] => []
  | .write _ d :: rest => d ++ writesData rest
  | _ :: rest => writesData rest

def allWritesTo (p : Bytes) (ops : List FOp) : Prop := ∀ op ∈ ops, ∃ d, op = .write p d

theorem applyOps_writes (fs : FS) (p : Bytes) (ops : List FOp) (c : Bytes)
    (hw : allWritesTo p ops) (hc : fsGet fs p = some c) :
    fsGet (applyOps fs ops) p = some (c ++ writesData ops) := by
  induction ops generalizing fs c with
  | nil => rw [writesData, List.append_nil]; exact hc
  | cons op rest ih =>
    obtain ⟨d, rfl⟩ := hw op (List.mem_cons_self ..)
    rw [applyOps_cons, ih _ (c ++ d) (fun o ho => hw o (List.mem_cons_of_mem _ ho)), writesData,
      List.append_assoc]
    rw [applyOp, fsGet_fsSet, if_pos rfl, hc]; rfl

theorem openTrunc_writes_untouched {p q : Bytes} {ws : List FOp} (hw : allWritesTo p ws) (hne : p ≠ q) :
    ∀ op ∈ FOp.openTrunc p :: ws, op.touches q = false := by
  refine List.forall_mem_cons.2 ⟨beq_eq_false_iff_ne.2 hne, fun op hop => ?_⟩
  obtain ⟨d, rfl⟩ := hw op hop
  exact beq_eq_false_iff_ne.2 hne

theorem fsGet_openTrunc_writes (fs : FS) (p : Bytes) (ws : List FOp) (hw : allWritesTo p ws) :
    fsGet (applyOps fs (.openTrunc p :: ws)) p = some (writesData ws) := by
  rw [applyOps_cons, applyOps_writes _ p ws [] hw (by rw [applyOp, fsGet_fsSet, if_pos rfl])]; rfl

theorem fsGet_rename (fs : FS) (s d c : Bytes) (h : fsGet fs s = some c) : fsGet (applyOp fs (.rename s d)) d = some c := by
  rw [applyOp, h]; exact (fsGet_fsSet ..).trans (if_pos rfl)

theorem applyOps_extends (p : Bytes) (ops : List FOp)
    (h : ∀ op ∈ ops, op.touches p = false ∨ op = .openAppend p ∨ ∃ d, op = .write p d) (fs : FS) :
    (fsGet fs p).getD [] <+: (fsGet (applyOps fs ops) p).getD [] := by
  refine List.foldlRecOn ops applyOp (motive := fun fs' => (fsGet fs p).getD [] <+: (fsGet fs' p).getD [])
    (List.prefix_refl _) fun fs' ih op hop => ih.trans ?_
  rcases h op hop with hu | rfl | ⟨d, rfl⟩
  · rw [applyOp_untouched fs' op _ hu]; exact List.prefix_refl _
  · rw [applyOp]
    split
    · rw [‹fsGet fs' p = none›]; exact List.nil_prefix
    · exact List.prefix_refl _
  · rw [applyOp, fsGet_fsSet, if_pos rfl]; exact List.prefix_append _ _

theorem csvLineWrites_all (p : Bytes) (vals : List Bytes) : allWritesTo p (csvLineWrites p vals) := by
  intro op hop
  cases vals with
  | nil => exact ⟨_, List.mem_singleton.1 hop⟩
  | cons v rest =>
    simp only [csvLineWrites, List.cons_append, List.mem_cons, List.mem_append, List.mem_flatMap, List.mem_nil_iff, or_false] at hop
    rcases hop with rfl | ⟨w, _, rfl | rfl⟩ | rfl <;> exact ⟨_, rfl⟩

theorem writesData_append (a b : List FOp) : writesData (a ++ b) = writesData a ++ writesData b := by
  induction a with
  | nil => rfl
  | cons op rest ih => cases op <;> simp [writesData, ih]

theorem csvLineWrites_data (p : Bytes) (vals : List Bytes) : writesData (csvLineWrites p vals) = csvLine vals := by
  cases vals with
  | nil => rfl
  | cons v rest =>
    simp only [csvLineWrites, csvLine]
    induction rest generalizing v with
    | nil => simp [writesData, joinByte]
    | cons w ws ih =>
      have := ih w
      simp only [List.flatMap_cons, List.cons_append, List.nil_append, writesData, joinByte,
        List.append_assoc] at this ⊢
      rw [this]

theorem ne_append_right (a b : Bytes) (hb : b ≠ []) : a ≠ a ++ b := fun h => hb (List.self_eq_append_right.1 h)

theorem tmp_ne (p : Bytes) : p ≠ p ++ TMP := ne_append_right p TMP (by decide)
theorem qf_ne (p : Bytes) : p ≠ p ++ QUERYEXT := ne_append_right p QUERYEXT (by decide)
theorem qtmp_ne (p : Bytes) : p ≠ p ++ QUERYEXT ++ TMP := by
  rw [List.append_assoc]; exact ne_append_right p _ (by decide)
theorem tmp_ne_qf (p : Bytes) : p ++ TMP ≠ p ++ QUERYEXT := fun h => absurd (List.append_cancel_left h) (by decide)

/-- `GroupSet.writeQueryFile` -/
def queryOps (r : OutReq) : List FOp :=
  [FOp.openTrunc (r.path ++ QUERYEXT ++ TMP), .write (r.path ++ QUERYEXT ++ TMP) r.rawQuery,
   .rename (r.path ++ QUERYEXT ++ TMP) (r.path ++ QUERYEXT)]

def tableWrites (p : Bytes) (r : OutReq) : List FOp := csvLineWrites p r.header ++ (limitedRows r).flatMap (csvLineWrites p)

def preOps (r : OutReq) : List FOp := queryOps r ++ (.openTrunc (r.path ++ TMP) :: tableWrites (r.path ++ TMP) r)

theorem ops_noappend (fs : FS) (r : OutReq) (h : r.append = false) :
    writeResultOps fs r = preOps r ++ (if r.final then [FOp.rename (r.path ++ TMP) r.path] else []) := by
  simp [writeResultOps, preOps, queryOps, tableWrites, needHeader, h]

theorem tableWrites_all (p : Bytes) (r : OutReq) : allWritesTo p (tableWrites p r) := by
  intro op hop
  rcases List.mem_append.1 hop with h | h
  · exact csvLineWrites_all _ _ op h
  · obtain ⟨row, _, h⟩ := List.mem_flatMap.1 h
    exact csvLineWrites_all _ _ op h

theorem tableWrites_data (p : Bytes) (r : OutReq) : writesData (tableWrites p r) = completeResult r := by
  rw [tableWrites, writesData_append, csvLineWrites_data, completeResult]
  congr 1
  induction limitedRows r with
  | nil => rfl
  | cons row rows ih => rw [List.flatMap_cons, List.flatMap_cons, writesData_append, csvLineWrites_data, ih]

theorem queryOps_untouched (r : OutReq) : ∀ op ∈ queryOps r, op.touches r.path = false := by
  have hq : r.path ++ QUERYEXT ≠ r.path := (qf_ne r.path).symm
  have hqt : r.path ++ QUERYEXT ++ TMP ≠ r.path := (qtmp_ne r.path).symm
  intro op hop
  simp only [queryOps, List.mem_cons, List.mem_nil_iff, or_false] at hop
  rcases hop with rfl | rfl | rfl
  · exact beq_eq_false_iff_ne.2 hqt
  · exact beq_eq_false_iff_ne.2 hqt
  · exact touches_rename hqt hq

theorem preOps_untouched (r : OutReq) : ∀ op ∈ preOps r, op.touches r.path = false := by
  intro op hop
  rcases List.mem_append.1 hop with h | h
  · exact queryOps_untouched r op h
  · exact openTrunc_writes_untouched (tableWrites_all _ r) (tmp_ne r.path).symm op h

theorem after_queryOps (fs : FS) (r : OutReq) : fsGet (applyOps fs (queryOps r)) (r.path ++ QUERYEXT) = some r.rawQuery := by
  -- opened afresh and written to, the temporary file holds the query text; the rename carries it over
  have htmp : fsGet (applyOps fs [.openTrunc (r.path ++ QUERYEXT ++ TMP), .write _ r.rawQuery]) (r.path ++ QUERYEXT ++ TMP)
      = some r.rawQuery :=
    (fsGet_openTrunc_writes fs _ [.write _ r.rawQuery] fun op hop => ⟨_, List.mem_singleton.1 hop⟩).trans
      (congrArg some (List.append_nil _))
  rw [show queryOps r = [.openTrunc _, .write _ r.rawQuery] ++ [.rename _ (r.path ++ QUERYEXT)] from rfl, applyOps_concat]
  exact fsGet_rename _ _ _ _ htmp

theorem after_preOps (fs : FS) (r : OutReq) :
    fsGet (applyOps fs (preOps r)) (r.path ++ TMP) = some (completeResult r) ∧
    fsGet (applyOps fs (preOps r)) (r.path ++ QUERYEXT) = some r.rawQuery := by
  rw [preOps, applyOps_append]
  constructor
  · rw [fsGet_openTrunc_writes _ _ _ (tableWrites_all _ r), tableWrites_data]
  · rw [applyOps_untouched _ _ _ (openTrunc_writes_untouched (tableWrites_all _ r) (tmp_ne_qf r.path)), after_queryOps]

theorem ops_append (fs : FS) (r : OutReq) (h : r.append = true) :
    ∃ ws, allWritesTo r.path ws ∧ writeResultOps fs r = queryOps r ++ .openAppend r.path :: ws := by
  refine ⟨(if needHeader fs r then csvLineWrites r.path r.header else []) ++ (limitedRows r).flatMap (csvLineWrites r.path),
    fun op hop => ?_, by simp [writeResultOps, queryOps, h]⟩
  rcases List.mem_append.1 hop with hx | hx
  · split at hx
    · exact csvLineWrites_all _ _ op hx
    · cases hx
  · obtain ⟨row, _, hrow⟩ := List.mem_flatMap.1 hx
    exact csvLineWrites_all _ _ op hrow

end Dtail
