/-
Tie G for the filter without a grep context: `readFile.filterWithoutLContext` of internal/io/fs/readfilelcontext.go as
translated from the working tree on this run (`Generated/Code.lean`, namespace `Gen.Fs`, together with `transmittable` and the
statistics ring).  The raw lines arriving on `rawLines` are a list, what is sent on `lines` is kept in the receiver.  For a
reader that may not skip lines (cat, grep, mapreduce) the lines sent are exactly the selected ones, each with its running
number in the file — the plain path of `dgrepLines` (`Model/Grep.lean`).
-/
import DtailModel.Generated.Code
import DtailModel.Lemmas.GoRT
namespace Dtail.GenPlain
open Dtail Dtail.Go Dtail.Gen.Fs

/-- the running number and the raw line a sent line carries -/
def numOf : GoLine → Int × Bytes
  | .null => (0, [])
  | .new c n _ _ => (n, c)

theorem lineCount_matched (ext : Ext) (s : stats) : (stats.updateLineMatched ext s).lineCount = s.lineCount := by
  unfold stats.updateLineMatched; split <;> rfl

theorem lineCount_notMatched (ext : Ext) (s : stats) : (stats.updateLineNotMatched ext s).lineCount = s.lineCount := by
  unfold stats.updateLineNotMatched; split <;> rfl

theorem lineCount_transmitted (ext : Ext) (s : stats) : (stats.updateLineTransmitted ext s).lineCount = s.lineCount := by
  unfold stats.updateLineTransmitted; split <;> rfl

theorem lineCount_notTransmitted (ext : Ext) (s : stats) :
    (stats.updateLineNotTransmitted ext s).lineCount = s.lineCount := by
  unfold stats.updateLineNotTransmitted; split <;> rfl

theorem lineCount_updatePosition (ext : Ext) (s : stats) : (stats.updatePosition ext s).lineCount = s.lineCount + 1 := rfl

/-- `transmittable` for a reader that may not skip lines: the line goes out exactly when the expression selects it, with the
    current line count; nothing but the statistics ring changes -/
theorem transmittable_plain (ext : Ext) (g : readFile) (raw : GoString) (len cap : Int) (re : GoRegex)
    (hc : g.canSkipLines = false) :
    ∃ g' l, readFile.transmittable ext g raw len cap re = (g', l, ext.reMatch re raw) ∧
      g'.canSkipLines = false ∧ g'.globID = g.globID ∧ g'.lines = g.lines ∧ g'.stats.lineCount = g.stats.lineCount ∧
      (ext.reMatch re raw = true → numOf l = (g.stats.lineCount, raw)) := by
  unfold readFile.transmittable
  cases hm : ext.reMatch re raw
  · simp only [Bool.not_false, if_true]
    exact ⟨_, _, rfl, hc, rfl, rfl, by simp only [lineCount_notTransmitted, lineCount_notMatched],
      fun h => absurd h (by decide)⟩
  · simp only [Bool.not_true, Bool.false_eq_true, if_false, hc, Bool.false_and]
    exact ⟨_, _, rfl, rfl, rfl, rfl, by simp only [lineCount_transmitted, lineCount_matched],
      fun _ => by simp only [numOf, stats.totalLineCount, lineCount_transmitted, lineCount_matched]⟩

/-- the selected lines with their running numbers, counting on from `n` -/
def plainNumbered (n : Int) : List (Bool × Bytes) → List (Int × Bytes)
  | [] => []
  | (sel, x) :: rest => (if sel then [(n + 1, x)] else []) ++ plainNumbered (n + 1) rest

def judged (ext : Ext) (re : GoRegex) (raws : List GoString) : List (Bool × Bytes) := raws.map fun x => (ext.reMatch re x, x)

/-- **the translated `filterWithoutLContext` sends the selected lines with their running numbers**; the count ends one past the
    number of lines because the code calls `updatePosition` once more when `rawLines` is closed -/
theorem plain_refines (ext : Ext) (re : GoRegex) : ∀ (raws : List GoString) (f : readFile), f.canSkipLines = false →
    let f' := readFile.filterWithoutLContext ext f () raws () re
    f'.lines.map numOf = f.lines.map numOf ++ plainNumbered f.stats.lineCount (judged ext re raws) ∧
    f'.stats.lineCount = f.stats.lineCount + raws.length + 1 ∧ f'.globID = f.globID := by
  intro raws
  induction raws with
  | nil =>
    intro f _
    exact ⟨by simp [readFile.filterWithoutLContext, goRange, judged, plainNumbered],
      by simp [readFile.filterWithoutLContext, goRange, lineCount_updatePosition], rfl⟩
  | cons x rest ih =>
    intro f hc
    obtain ⟨g', l, ht, t1, t2, t3, t4, t6⟩ :=
      transmittable_plain ext { f with stats := stats.updatePosition ext f.stats } x ext.linesLen ext.linesCap re hc
    rw [lineCount_updatePosition] at t4
    -- one round of the loop: the receiver afterwards
    obtain ⟨f1, hstep, c1, c2, c3, c4⟩ : ∃ f1, readFile.filterWithoutLContext ext f () (x :: rest) () re
          = readFile.filterWithoutLContext ext f1 () rest () re ∧
        f1.canSkipLines = false ∧ f1.globID = f.globID ∧ f1.stats.lineCount = f.stats.lineCount + 1 ∧
        f1.lines.map numOf = f.lines.map numOf ++ plainNumbered f.stats.lineCount [(ext.reMatch re x, x)] := by
      unfold readFile.filterWithoutLContext
      rw [goRange_cons]
      simp only [ht]
      cases hsel : ext.reMatch re x
      · exact ⟨g', rfl, t1, t2, t4, by simp [t3, plainNumbered]⟩
      · exact ⟨{ g' with lines := g'.lines ++ [l] }, rfl, t1, t2, t4, by simp [t3, t6 hsel, plainNumbered, lineCount_updatePosition]⟩
    obtain ⟨i1, i2, i3⟩ := ih f1 c1
    rw [hstep]
    refine ⟨?_, ?_, ?_⟩
    · rw [i1, c4, c3]; simp [judged, plainNumbered]
    · rw [i2, c3, List.length_cons]; omega
    · rw [i3, c2]

/-- the numbering is the position in the file: what `dgrepLines` computes on its plain path -/
theorem plainNumbered_eq (ls : List (Bool × Bytes)) : ∀ n : Nat,
    plainNumbered (n : Int) ls
      = ((ls.zipIdx (n + 1)).filter (·.1.1)).map (fun (p : (Bool × Bytes) × Nat) => (((p.2 : Nat) : Int), p.1.2)) := by
  induction ls with
  | nil => intro n; rfl
  | cons p rest ih =>
    intro n
    obtain ⟨sel, x⟩ := p
    have h := ih (n + 1)
    simp only [plainNumbered, List.zipIdx_cons, List.filter_cons]
    have hn : ((n : Int) + 1) = ((n + 1 : Nat) : Int) := rfl
    rw [hn, h]
    cases sel <;> simp

/-- a reader started on a fresh file: the lines sent are the selected ones with their positions in the file -/
theorem plain_fresh (ext : Ext) (re : GoRegex) (raws : List GoString) (f : readFile) (hc : f.canSkipLines = false)
    (h0 : f.stats.lineCount = 0) (hl : f.lines = []) :
    (readFile.filterWithoutLContext ext f () raws () re).lines.map numOf
      = (((judged ext re raws).zipIdx 1).filter (·.1.1)).map
          (fun (p : (Bool × Bytes) × Nat) => (((p.2 : Nat) : Int), p.1.2)) := by
  have h := (plain_refines ext re raws f hc).1
  rw [hl, h0] at h
  exact h.trans (plainNumbered_eq (judged ext re raws) 0)

end Dtail.GenPlain
