/-
internal/user/server/user.go (`Gen.User`): `splitPermission`, `iteratePaths`, `hasFilePermission` and `HasFilePermission` are the
model's `ruleBody` / `parseRule`, `iterateRules` and `hasFilePermission` (Model/Perm.lean), on which the theorems of C08 are
stated.  The regexp engine (`ext.reCompile`, `ext.reMatchRaw`) and the file system (`ext.evalSymlinks`, `absPath`, `osLstat`,
`osToRead`) are parameters; the model's oracles are read off them (`oracleOf`, `fsOf`).
-/
import DtailModel.Generated.Code
import DtailModel.Lemmas.GoRT
import DtailModel.Lemmas.Perm
namespace Dtail.GenPerm
open Dtail Dtail.Go Dtail.Gen.User

def oracleOf (ext : Ext) : MatchOracle := fun rx p =>
  if (ext.reCompile rx).2.isSome then none else some (ext.reMatchRaw (ext.reCompile rx).1 p)

theorem add_eq_append (a b : GoString) : a + b = a ++ b := rfl

theorem splitPermission_spec (ext : Ext) (perm : GoString) :
    splitPermission ext perm = (READFILES, ruleBody perm) := by
  unfold splitPermission permissionTypes ruleBody
  simp only [goRange, add_eq_append]
  -- the literals of the translation are the model's constants
  simp only [show hasPrefix (b!"readfiles" ++ b!":") perm
    = hasPrefix (READFILES ++ [COLON]) perm from rfl]
  cases hasPrefix (READFILES ++ [COLON]) perm <;> rfl

theorem hasPrefix_bang (l : Bytes) : hasPrefix (b!"!") l = decide (l.head? = some BANG) := by
  cases l with
  | nil => rfl
  | cons b rest =>
    by_cases hb : b = 33
    · simp [hasPrefix, List.isPrefixOf, BANG, hb]
    · simp [hasPrefix, List.isPrefixOf, BANG, hb, Ne.symm hb]

/-- "Permission test failed, can't compile regex '%s': %w" -/
def compileErr : GoString := [80, 101, 114, 109, 105, 115, 115, 105, 111, 110, 32, 116, 101, 115, 116, 32, 102, 97, 105, 108, 101, 100, 44, 32, 99, 97, 110, 39, 116, 32, 99, 111, 109, 112, 105, 108, 101, 32, 114, 101, 103, 101, 120, 32, 39, 37, 115, 39, 58, 32, 37, 119]

/-- the body of the range loop of `iteratePaths`, copied from the generated text (the error text named `compileErr`) -/
def permBody (ext : Ext) (u : User) (path ty : GoString) (hasPermission : Bool) (permission : GoString) :
    LoopStep (User × Bool × GoErr) Bool :=
        let regexStr : GoString := (GoZero.zero : GoString)
        let negate : Bool := (GoZero.zero : Bool)
        let (_t1, _t2) := (splitPermission ext permission)
        let typeStr := _t1
        let permission := _t2
        if (typeStr != ty) then
          LoopStep.next hasPermission
        else
          let regexStr := permission
          if (hasPrefix ([33] : GoString) permission) then
            let regexStr := (List.drop (Int.toNat 1) permission)
            let negate := true
            let (_t3, _t4) := (ext.reCompile regexStr)
            let re := _t3
            let err := _t4
            if (err != none) then
              LoopStep.ret (u, false, (some compileErr))
            else
              if (negate && (ext.reMatchRaw re path)) then
                let hasPermission := false
                if ((!negate) && (ext.reMatchRaw re path)) then
                  let hasPermission := true
                  LoopStep.next hasPermission
                else
                  LoopStep.next hasPermission
              else
                if ((!negate) && (ext.reMatchRaw re path)) then
                  let hasPermission := true
                  LoopStep.next hasPermission
                else
                  LoopStep.next hasPermission
          else
            let (_t5, _t6) := (ext.reCompile regexStr)
            let re := _t5
            let err := _t6
            if (err != none) then
              LoopStep.ret (u, false, (some compileErr))
            else
              if (negate && (ext.reMatchRaw re path)) then
                let hasPermission := false
                if ((!negate) && (ext.reMatchRaw re path)) then
                  let hasPermission := true
                  LoopStep.next hasPermission
                else
                  LoopStep.next hasPermission
              else
                if ((!negate) && (ext.reMatchRaw re path)) then
                  let hasPermission := true
                  LoopStep.next hasPermission
                else
                  LoopStep.next hasPermission


theorem iteratePaths_eq (ext : Ext) (u : User) (path ty : GoString) :
    User.iteratePaths ext u path ty = goRange u.permissions false (permBody ext u path ty) (fun has => (u, has, none)) := rfl

theorem permBody_step (ext : Ext) (u : User) (path ty : GoString) (has : Bool) (p : GoString) :
    permBody ext u path ty has p =
      if (parseRule p).type ≠ ty then LoopStep.next has
      else match oracleOf ext (parseRule p).regex path with
        | none => LoopStep.ret (u, false, some compileErr)
        | some true => LoopStep.next (!(parseRule p).deny)
        | some false => LoopStep.next has := by
  -- the two branches of the translated body are the same code with `negate` set for a deny rule and not for an allow rule
  have hrule (rx : GoString) (negate : Bool) :
      (if ((ext.reCompile rx).2 != none) = true then LoopStep.ret (u, false, some compileErr)
        else if (negate && ext.reMatchRaw (ext.reCompile rx).1 path) = true then
          if (!negate && ext.reMatchRaw (ext.reCompile rx).1 path) = true then LoopStep.next true else LoopStep.next false
        else if (!negate && ext.reMatchRaw (ext.reCompile rx).1 path) = true then LoopStep.next true else LoopStep.next has) =
      match oracleOf ext rx path with
        | none => LoopStep.ret (u, false, some compileErr)
        | some true => LoopStep.next (!negate)
        | some false => LoopStep.next has := by
    unfold oracleOf
    cases (ext.reCompile rx).2 with
    | some e => rfl
    | none => cases negate <;> cases ext.reMatchRaw (ext.reCompile rx).1 path <;> rfl
  unfold permBody
  rw [splitPermission_spec]
  dsimp only
  rw [parseRule_type, hasPrefix_bang]
  refine ite_congr (by rw [bne_iff_ne]) (fun _ => rfl) fun _ => ?_
  unfold parseRule
  by_cases hb : (ruleBody p).head? = some BANG
  · rw [if_pos (decide_eq_true hb), if_pos hb]; exact hrule _ true
  · rw [if_neg (by rw [decide_eq_true_eq]; exact hb), if_neg hb]; exact hrule _ false

theorem loop_refines (ext : Ext) (u : User) (path ty : GoString) (perms : List GoString) (has : Bool) :
    (goRange perms has (permBody ext u path ty) (fun has => (u, has, none))).2.1
      = iterateRules (oracleOf ext) ty path (perms.map parseRule) has := by
  induction perms generalizing has with
  | nil => simp [goRange, iterateRules]
  | cons p rest ih =>
    rw [goRange_cons, permBody_step, List.map_cons]
    unfold iterateRules
    by_cases ht : (parseRule p).type ≠ ty
    · rw [if_pos ht, if_pos ht]; exact ih has
    · rw [if_neg ht, if_neg ht]
      cases oracleOf ext (parseRule p).regex path with
      | none => rfl
      | some b => cases b <;> simp [ih]

theorem iteratePaths_refines (ext : Ext) (u : User) (path ty : GoString) :
    (User.iteratePaths ext u path ty).2.1 = iterateRules (oracleOf ext) ty path (u.permissions.map parseRule) false := by
  rw [iteratePaths_eq]
  exact loop_refines ext u path ty u.permissions false

/-- the only `return` inside the loop is the one at a rule that does not compile, and it returns `false` -/
theorem iteratePaths_error_denies (ext : Ext) (u : User) (path ty : GoString)
    (h : (User.iteratePaths ext u path ty).2.2 ≠ none) : (User.iteratePaths ext u path ty).2.1 = false := by
  revert h
  rw [iteratePaths_eq]
  refine goRange_all (fun r : User × Bool × GoErr => r.2.2 ≠ none → r.2.1 = false) _ _ _ (fun has p r hr => ?_) (fun _ h => absurd rfl h) _
  rw [permBody_step] at hr
  split at hr
  · cases hr
  · split at hr <;> cases hr
    exact fun _ => rfl

/-- the file system as the model's decision sees it: what `filepath.EvalSymlinks` + `filepath.Abs`, `os.Lstat` and
    `permissions.ToRead` answer -/
def fsOf (ext : Ext) (user : GoString) : FsOracle where
  resolve p :=
    if (ext.evalSymlinks p).2 = none ∧ (ext.absPath (ext.evalSymlinks p).1).2 = none then some (ext.absPath (ext.evalSymlinks p).1).1
    else none
  regular c := decide ((ext.osLstat c).2 = none) && (ext.osLstat c).1.regular
  osReadable c := decide ((ext.osToRead user c).2 = none)

theorem hasFilePermission_inner (ext : Ext) (u : User) (clean ty : GoString) :
    (User.hasFilePermission ext u clean ty).2.1 =
      (if !(fsOf ext u.Name).osReadable clean then false
       else if !(fsOf ext u.Name).regular clean then false
       else iterateRules (oracleOf ext) ty clean (u.permissions.map parseRule) false) := by
  have hits : (!decide ¬(User.iteratePaths ext u clean ty).2.2 = none && (User.iteratePaths ext u clean ty).2.1)
      = iterateRules (oracleOf ext) ty clean (u.permissions.map parseRule) false := by
    rw [← iteratePaths_refines]
    by_cases he : (User.iteratePaths ext u clean ty).2.2 = none
    · simp [he]
    · simp [he, iteratePaths_error_denies ext u clean ty he]
  unfold User.hasFilePermission fsOf
  simp only [apply_ite (fun x : User × Bool × GoErr => x.2.1), Bool.if_false_left, bne_iff_ne, ne_eq]
  rw [hits]
  simp [Bool.and_assoc]

theorem HasFilePermission_refines (ext : Ext) (u : User) (path : GoString) :
    (User.HasFilePermission ext u path READFILES).2
      = hasFilePermission (fsOf ext u.Name) (oracleOf ext) u.Name u.permissions path := by
  unfold User.HasFilePermission hasFilePermission
  simp only [ite_self, apply_ite Prod.snd, ← hasFilePermission_inner, Bool.or_eq_true, beq_iff_eq, bne_iff_ne, ne_eq]
  refine ite_congr rfl (fun _ => rfl) fun _ => ?_
  simp only [fsOf]
  by_cases h1 : (ext.evalSymlinks path).2 = none
  · by_cases h2 : (ext.absPath (ext.evalSymlinks path).1).2 = none
    · rw [if_neg (not_not_intro h1), if_neg (not_not_intro h2), if_pos ⟨h1, h2⟩]
    · rw [if_neg (not_not_intro h1), if_pos h2, if_neg fun h => h2 h.2]
  · rw [if_pos h1, if_neg fun h => h1 h.1]

end Dtail.GenPerm
