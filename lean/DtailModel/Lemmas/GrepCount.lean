/-
The numbers the context filter gives its lines (`grunN`: `totalLineCount() - i` for the lines flushed from the ring) are
their positions in the file (`mem_grunN`).  The reason: what a step sends, and the ring it leaves, are final segments of
the old ring followed by the current line (`gstep_suffix`), hence of the lines read so far, and `numberEnding` numbers a
final segment of the lines read so far by position (`mem_numberEnding`).
-/
import DtailModel.Lemmas.Grep
namespace Dtail
variable {α : Type}

def consec (k : Nat) : Nat → List Nat
  | 0 => []
  | len + 1 => (k + 1) :: consec (k + 1) len

theorem consec_tail (k len : Nat) : (consec k (len + 1)).tail = consec (k + 1) len := by
  simp [consec]

def RingInv (B : Nat) (s : GState α) (n : Nat) : Prop :=
  s.ring.length ≤ n ∧ s.ring.length ≤ B ∧ (0 < s.after → s.ring = []) ∧ (B = 0 → s.ring = [])

variable {B A : Nat} {s : GState α}

theorem mem_numberEnding {l e : List α} (h : e <:+ l) {c : Nat} {y : α} (hm : (c, y) ∈ numberEnding l.length e) :
    1 ≤ c ∧ l[c - 1]? = some y := by
  obtain ⟨t, rfl⟩ := h
  obtain ⟨⟨y', c'⟩, hz, heq⟩ := List.mem_map.1 hm
  cases heq
  -- the batch is numbered from `|t| + 1`
  rw [List.length_append, Nat.add_right_comm, Nat.add_sub_cancel] at hz
  obtain ⟨h1, h2⟩ := List.mk_mem_zipIdx_iff_le_and_getElem?_sub.1 hz
  refine ⟨Nat.le_trans (Nat.le_add_left 1 _) h1, ?_⟩
  rw [List.getElem?_append_right (Nat.le_sub_one_of_lt h1), Nat.sub_sub, Nat.add_comm 1]
  exact h2

/-- One step from a state the loop reaches: what it sends, and the ring it leaves, are final segments of the old ring
    followed by the current line; the state it leaves is again one the loop reaches (`GInv` is kept). -/
theorem gstep_suffix (M : Nat) (h : GInv B A s) (sel : Bool) (x : α) :
    (gstep B A M s sel x).1 <:+ s.ring ++ [x] ∧
      ∀ s', (gstep B A M s sel x).2 = some s' → GInv B A s' ∧ s'.ring <:+ s.ring ++ [x] := by
  cases sel with
  | false =>
    cases ha : s.after with
    | zero =>
      rw [gstep_gap M x h ha]
      refine ⟨List.nil_suffix, fun s' hs' => ?_⟩
      cases hs'
      exact ⟨h.push ha x, lastN_suffix _ _⟩
    | succ k =>
      rw [gstep_owed M x h ha]
      have hr := h.owed (by omega)
      refine ⟨by rw [hr]; exact List.suffix_refl _, fun s' hs' => ?_⟩
      cases hs'
      exact ⟨h.pay ha, by simp [hr]⟩
  | true =>
    rw [gstep_hit M x h]
    by_cases hstop : A > 0 ∧ s.maxReached = true
    · rw [if_pos hstop]
      exact ⟨List.nil_suffix, fun s' hs' => nomatch hs'⟩
    · rw [if_neg hstop]
      refine ⟨List.suffix_refl _, fun s' hs' => ?_⟩
      rcases spend_cases A M s with hn | ⟨mc, mr, hsome⟩
      · exact absurd (hn.symm.trans hs') (by simp)
      · obtain rfl := Option.some.inj (hsome.symm.trans hs')
        exact ⟨.drained id, List.nil_suffix⟩

theorem mem_grunN (M : Nat) (ls : List (Bool × α)) (seen : List α) (h : GInv B A s) (hr : s.ring <:+ seen)
    {c : Nat} {y : α} (hm : (c, y) ∈ grunN B A M s seen.length ls) :
    1 ≤ c ∧ (seen ++ ls.map (·.2))[c - 1]? = some y := by
  induction ls generalizing s seen with
  | nil => cases hm
  | cons p rest ih =>
    obtain ⟨sel, x⟩ := p
    obtain ⟨he, hnext⟩ := gstep_suffix M h sel x
    have hseen : s.ring ++ [x] <:+ seen ++ [x] := by
      obtain ⟨t, rfl⟩ := hr; exact ⟨t, by simp⟩
    have hbatch : (c, y) ∈ numberEnding (seen.length + 1) (gstep B A M s sel x).1 →
        1 ≤ c ∧ (seen ++ ((sel, x) :: rest).map (·.2))[c - 1]? = some y := by
      intro hc
      have := mem_numberEnding (l := seen ++ [x]) (he.trans hseen) (by rw [List.length_append]; exact hc)
      rw [List.map_cons, List.append_cons, List.getElem?_append_left (List.getElem?_eq_some_iff.1 this.2).1]
      exact this
    rw [grunN] at hm
    cases hg : gstep B A M s sel x with
    | mk e o =>
      rw [hg] at hm hbatch hnext
      cases o with
      | none => exact hbatch hm
      | some s' =>
        rcases List.mem_append.1 hm with hc | hc
        · exact hbatch hc
        · obtain ⟨hinv, hring⟩ := hnext s' rfl
          rw [List.map_cons, List.append_cons]
          exact ih (seen ++ [x]) hinv (hring.trans hseen) (by rw [List.length_append]; exact hc)

end Dtail
