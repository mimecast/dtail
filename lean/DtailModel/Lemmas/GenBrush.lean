/-
internal/color/brush/brush.go (`Gen.Brush`): `Colorfy` with its five painters, index and slice expressions guarded.
`color.PaintWithAttr(sb, text, …)` is the parameter `ext.paint` (what the builder holds afterwards); the colours are not part
of the translation.  `Colorfy` never indexes out of range, and it never alters text: whatever `paint` does, as long as removing
the paint from `paint sb text` leaves the unpainted `sb` followed by `text`, removing the paint from `Colorfy line` leaves `line`.
-/
import DtailModel.Generated.Code
import DtailModel.Lemmas.GoStr
import DtailModel.Lemmas.ListFacts
import DtailModel.Lemmas.LoopRules
namespace Dtail.GenBrush
open Dtail Dtail.Go

/-- what is assumed about `color.PaintWithAttr`: `strip` removes the paint -/
structure Strips (ext : Ext) (strip : GoString → GoString) : Prop where
  nil : strip [] = []
  paint : ∀ sb t, strip (ext.paint sb t) = strip sb ++ t

def Adds (strip : GoString → GoString) (sb text : GoString) (r : Outcome GoString) : Prop :=
  ∃ out, r = .ok out ∧ strip out = strip sb ++ text

theorem paintDefault_adds (ext : Ext) (strip : GoString → GoString) (hs : Strips ext strip) (sb line : GoString) :
    strip (Gen.Brush.paintDefault ext sb line) = strip sb ++ line := hs.paint sb line

theorem paintSeverity_cases (ext : Ext) (sb text : GoString) :
    Gen.Brush.paintSeverity ext sb text = (ext.paint sb text, true) ∨ Gen.Brush.paintSeverity ext sb text = (sb, false) := by
  unfold Gen.Brush.paintSeverity
  repeat refine ite_all (fun r => r = (ext.paint sb text, true) ∨ r = (sb, false)) (fun _ => .inl rfl) fun _ => ?_
  exact .inr rfl

theorem idx0 {α : Type} [GoZero α] (a : α) (l : List α) : (GoIndex.idx (a :: l) (0 : Int) : α) = a := rfl
theorem idx1 {α : Type} [GoZero α] (a b : α) (l : List α) : (GoIndex.idx (a :: b :: l) (1 : Int) : α) = b := rfl
theorem idx2 {α : Type} [GoZero α] (a b c : α) (l : List α) : (GoIndex.idx (a :: b :: c :: l) (2 : Int) : α) = c := rfl
theorem idx3 {α : Type} [GoZero α] (a b c d : α) (l : List α) : (GoIndex.idx (a :: b :: c :: d :: l) (3 : Int) : α) = d := rfl
theorem idx4 {α : Type} [GoZero α] (a b c d e : α) (l : List α) : (GoIndex.idx (a :: b :: c :: d :: e :: l) (4 : Int) : α) = e := rfl
theorem idx5 {α : Type} [GoZero α] (a b c d e g : α) (l : List α) : (GoIndex.idx (a :: b :: c :: d :: e :: g :: l) (5 : Int) : α) = g := rfl

/-- the `if` is how `paintClient`, `paintServer` and `paintRemote` end: the last field painted by its severity, or plainly -/
theorem last_field (ext : Ext) (strip : GoString → GoString) (hs : Strips ext strip) (sb f : GoString) :
    strip (if (Gen.Brush.paintSeverity ext sb f).2 = true then (Gen.Brush.paintSeverity ext sb f).1 else ext.paint (Gen.Brush.paintSeverity ext sb f).1 f)
      = strip sb ++ f := by
  rcases paintSeverity_cases ext sb f with h | h <;> rw [h] <;> exact hs.paint sb f

theorem paintClient_adds (ext : Ext) (strip : GoString → GoString) (hs : Strips ext strip) (sb line : GoString) :
    Adds strip sb line (Gen.Brush.paintClient ext sb line) := by
  unfold Gen.Brush.paintClient
  refine ite_all (Adds strip sb line) (fun _ => ⟨_, rfl, hs.paint sb line⟩) fun h3 => ?_
  obtain ⟨f0, f1, f2, hsp⟩ := list_len3 _ (show (splitN (124 : UInt8) 3 line).length = 3 by
    have := splitN_length_le 124 3 line; guard_tac at h3 ⊢)
  have hj : joinByte PIPE [f0, f1, f2] = line := hsp ▸ joinByte_splitN PIPE 2 line
  rw [hsp]
  have g0 : goInRange [f0, f1, f2] 0 = true := rfl
  have g1 : goInRange [f0, f1, f2] 1 = true := rfl
  have g2 : goInRange [f0, f1, f2] 2 = true := rfl
  simp only [g0, g1, g2, if_true, ← apply_ite Outcome.ok]
  refine ⟨_, rfl, ?_⟩
  rw [last_field ext strip hs, ← hj]
  simp [hs.paint, joinByte, PIPE, idx0, idx1, idx2]

/-- brush.go paints a server line as it paints a client line but for the colours, which the translation leaves out -/
theorem paintServer_adds (ext : Ext) (strip : GoString → GoString) (hs : Strips ext strip) (sb line : GoString) :
    Adds strip sb line (Gen.Brush.paintServer ext sb line) :=
  paintClient_adds ext strip hs sb line

theorem paintRemote_adds (ext : Ext) (strip : GoString → GoString) (hs : Strips ext strip) (sb line : GoString) :
    Adds strip sb line (Gen.Brush.paintRemote ext sb line) := by
  unfold Gen.Brush.paintRemote
  refine ite_all (Adds strip sb line) (fun _ => ⟨_, rfl, hs.paint sb line⟩) fun h6 => ?_
  obtain ⟨f0, f1, f2, f3, f4, f5, hsp⟩ := list_len6 _ (show (splitN (124 : UInt8) 6 line).length = 6 by
    have := splitN_length_le 124 6 line; guard_tac at h6 ⊢)
  have hj : joinByte PIPE [f0, f1, f2, f3, f4, f5] = line := hsp ▸ joinByte_splitN PIPE 5 line
  rw [hsp]
  have g0 : goInRange [f0, f1, f2, f3, f4, f5] 0 = true := rfl
  have g1 : goInRange [f0, f1, f2, f3, f4, f5] 1 = true := rfl
  have g2 : goInRange [f0, f1, f2, f3, f4, f5] 2 = true := rfl
  have g3 : goInRange [f0, f1, f2, f3, f4, f5] 3 = true := rfl
  have g4 : goInRange [f0, f1, f2, f3, f4, f5] 4 = true := rfl
  have g5 : goInRange [f0, f1, f2, f3, f4, f5] 5 = true := rfl
  -- `ite_self`: whichever colour the transmitted percentage gets, the same text is painted
  simp only [g0, g1, g2, g3, g4, g5, if_true, ite_self, ← apply_ite Outcome.ok]
  refine ⟨_, rfl, ?_⟩
  rw [last_field ext strip hs, ← hj]
  simp [hs.paint, joinByte, PIPE, idx0, idx1, idx2, idx3, idx4, idx5]

theorem Colorfy_lossless (ext : Ext) (strip : GoString → GoString) (hs : Strips ext strip) (line : GoString) :
    ∃ out, Gen.Brush.Colorfy ext line = .ok out ∧ strip out = line := by
  suffices h : Adds strip [] line (Gen.Brush.Colorfy ext line) by
    obtain ⟨out, ho, hst⟩ := h
    exact ⟨out, ho, by rw [hst, hs.nil]; rfl⟩
  unfold Gen.Brush.Colorfy
  have arm : ∀ {r : Outcome GoString} (msg : String), Adds strip [] line r →
      Adds strip [] line (match r with | Outcome.ok o => Outcome.ok o | _ => Outcome.panic msg) := by
    rintro _ _ ⟨out, rfl, hst⟩
    exact ⟨out, rfl, hst⟩
  refine ite_all _ (fun _ => arm _ (paintRemote_adds ext strip hs [] line)) fun _ => ?_
  refine ite_all _ (fun _ => arm _ (paintClient_adds ext strip hs [] line)) fun _ => ?_
  exact ite_all _ (fun _ => arm _ (paintServer_adds ext strip hs [] line)) fun _ => ⟨_, rfl, paintDefault_adds ext strip hs [] line⟩

end Dtail.GenBrush
