import DtailModel.Model.GlobID
import DtailModel.Lemmas.GoStr
namespace Dtail

theorem globIDLoop_append (pre ps gs : List Bytes) (h : gs.length ≤ ps.length) :
    globIDLoop (pre ++ ps) gs pre.length = .ok (starSel ps gs) := by
  induction gs generalizing pre ps with
  | nil => cases ps <;> rfl
  | cons g gs ih =>
    cases ps with
    | nil => simp at h
    | cons p ps =>
      have ih := ih (pre ++ [p]) ps (by simpa using h)
      simp only [List.append_assoc, List.singleton_append, List.length_append, List.length_singleton] at ih
      have hi : (pre ++ p :: ps)[pre.length]? = some p := by simp
      unfold globIDLoop
      simp only [hi, ih, starSel]
      split <;> rfl

theorem starSel_injective (gs ps qs : List Bytes) (hp : MatchesLiterals ps gs) (hq : MatchesLiterals qs gs)
    (h : starSel ps gs = starSel qs gs) : ps = qs := by
  fun_induction MatchesLiterals ps gs generalizing qs with
  | case1 p ps g gs ih =>
    cases qs with
    | nil => exact hq.elim
    | cons q qs =>
      rw [starSel, starSel] at h
      by_cases hw : isWild g = true
      · -- at a wildcard position both components are in the identifier
        rw [if_pos hw, if_pos hw] at h
        rw [(List.cons.inj h).1, ih qs hp.2 hq.2 (List.cons.inj h).2]
      · -- at a literal position both are the glob's component
        rw [if_neg hw, if_neg hw] at h
        rw [hp.1 (Bool.eq_false_iff.2 hw), hq.1 (Bool.eq_false_iff.2 hw), ih qs hp.2 hq.2 h]
  | case2 =>
    cases qs with
    | nil => rfl
    | cons q qs => exact hq.elim
  | case3 => exact hp.elim

theorem matchesLiterals_length (ps gs : List Bytes) (h : MatchesLiterals ps gs) : ps.length = gs.length := by
  fun_induction MatchesLiterals ps gs with
  | case1 p ps g gs ih => rw [List.length_cons, List.length_cons, ih h.2]
  | case2 => rfl
  | case3 => exact h.elim

theorem starSel_sublist (ps gs : List Bytes) : (starSel ps gs).Sublist ps := by
  fun_induction starSel ps gs with
  | case1 p ps g gs hw ih => exact ih.cons_cons p
  | case2 p ps g gs hw ih => exact ih.cons p
  | case3 => exact List.nil_sublist _

theorem starSel_ne_nil (ps gs : List Bytes) (hm : MatchesLiterals ps gs) (hs : ∃ g ∈ gs, isWild g = true) :
    starSel ps gs ≠ [] := by
  fun_induction MatchesLiterals ps gs with
  | case1 p ps g gs ih =>
    rw [starSel]
    by_cases hw : isWild g = true
    · rw [if_pos hw]
      exact List.cons_ne_nil _ _
    · rw [if_neg hw]
      -- the wildcard component comes later
      obtain ⟨g', hg', hs'⟩ := hs
      rcases List.mem_cons.1 hg' with rfl | hg'
      · exact absurd hs' hw
      · exact ih hm.2 ⟨g', hg', hs'⟩
  | case2 => simp at hs
  | case3 => exact hm.elim

theorem makeGlobID_ok (path glob : Bytes)
    (h : (splitOnByte SLASH glob).length ≤ (splitOnByte SLASH path).length) :
    makeGlobID path glob =
      .ok (match starSel (splitOnByte SLASH path) (splitOnByte SLASH glob) with
           | [] => (splitOnByte SLASH path).getLast?.getD []
           | ids => joinByte SLASH ids) := by
  have hl : globIDLoop (splitOnByte SLASH path) (splitOnByte SLASH glob) 0 = _ := globIDLoop_append [] _ _ h
  unfold makeGlobID
  simp only [hl]
  cases starSel (splitOnByte SLASH path) (splitOnByte SLASH glob) <;> rfl

theorem makeGlobID_wild (path glob : Bytes)
    (hm : MatchesLiterals (splitOnByte SLASH path) (splitOnByte SLASH glob))
    (hwild : ∃ g ∈ splitOnByte SLASH glob, isWild g = true) :
    makeGlobID path glob = .ok (joinByte SLASH (starSel (splitOnByte SLASH path) (splitOnByte SLASH glob))) ∧
      splitOnByte SLASH (joinByte SLASH (starSel (splitOnByte SLASH path) (splitOnByte SLASH glob)))
        = starSel (splitOnByte SLASH path) (splitOnByte SLASH glob) := by
  have hl := matchesLiterals_length _ _ hm
  have hne := starSel_ne_nil _ _ hm hwild
  refine ⟨?_, splitOnByte_joinByte SLASH _ hne fun x hx =>
    splitOnByte_parts_nosep SLASH path x ((starSel_sublist _ _).subset hx)⟩
  rw [makeGlobID_ok path glob (by omega)]
  cases hs : starSel (splitOnByte SLASH path) (splitOnByte SLASH glob) with
  | nil => exact absurd hs hne
  | cons a as => rfl

theorem makeGlobID_injective (glob p q : Bytes)
    (hp : MatchesLiterals (splitOnByte SLASH p) (splitOnByte SLASH glob))
    (hq : MatchesLiterals (splitOnByte SLASH q) (splitOnByte SLASH glob))
    (hwild : ∃ g ∈ splitOnByte SLASH glob, isWild g = true)
    (h : makeGlobID p glob = makeGlobID q glob) : p = q := by
  obtain ⟨ep, sp⟩ := makeGlobID_wild p glob hp hwild
  obtain ⟨eq, sq⟩ := makeGlobID_wild q glob hq hwild
  rw [ep, eq] at h
  have hsel := sp.symm.trans ((congrArg (splitOnByte SLASH) (Outcome.ok.inj h)).trans sq)
  rw [← joinByte_splitOnByte SLASH p, ← joinByte_splitOnByte SLASH q, starSel_injective _ _ _ hp hq hsel]

end Dtail
