/-
Password authentication, `Server.Callback` and `Server.backgroundCanSSH` of internal/server/server.go (`Gen.Auth`): the translated
callback never panics, and it grants (returns a nil error) exactly when the model's `passwordCallback` says so.  Outside the
translation: `user.New`, `net.LookupIP` and the job lists `config.Server.Schedule` / `Continuous` (fields of `Ext`), and the
accessors `User()` and `RemoteAddr().String()` of `gossh.ConnMetadata` (fields of `GoConnMeta`).
-/
import DtailModel.Generated.Code
import DtailModel.Lemmas.GoRT
import DtailModel.Model.Auth
import DtailModel.Lemmas.GoStr
namespace Dtail.GenAuth
open Dtail Dtail.Go Dtail.Gen.Auth

def lookupOf (ext : Ext) (a : Bytes) : List Bytes :=
  if (ext.lookupIP a).2 = none then (ext.lookupIP a).1 else []

def jobOf (j : GoJob) : Job := ⟨j.Name, j.AllowFrom⟩

theorem server_eq (a b : Server) : a = b := by cases a; cases b; rfl

theorem goRange_any {α ρ σ : Type} (l : List α) (s0 : σ) (body : σ → α → LoopStep ρ σ) (after : σ → ρ)
    (p : α → Bool) (r : ρ) (h : ∀ x, body s0 x = if p x then .ret r else .next s0) :
    goRange l s0 body after = if l.any p then r else after s0 := by
  induction l with
  | nil => rfl
  | cons x xs ih =>
    rw [goRange_cons, h x]
    by_cases hp : p x = true
    · simp [hp]
    · simp only [hp, Bool.false_eq_true, if_false, List.any_cons, Bool.false_or]; exact ih

theorem lit_health : lit_0 = Facts.healthUserBytes := rfl
theorem lit_schedule : lit_2 = Facts.scheduleUserBytes := rfl
theorem lit_continuous : lit_3 = Facts.continuousUserBytes := rfl

theorem backgroundCanSSH_refines (ext : Ext) (s : Server) (u : GoUser) (pw ip : Bytes) (j : GoJob) :
    Server.backgroundCanSSH ext s u pw ip j.Name j.AllowFrom
      = (s, Dtail.backgroundCanSSH (lookupOf ext) pw ip (jobOf j)) := by
  unfold Server.backgroundCanSSH Dtail.backgroundCanSSH
  by_cases hn : pw = j.Name
  · rw [if_neg (by simp [hn]), goRange_any j.AllowFrom () _ _ (fun a => (lookupOf ext a).contains ip) (s, true)]
    · simp only [jobOf, hn, beq_self_eq_true, Bool.true_and]
      cases List.any j.AllowFrom fun a => (lookupOf ext a).contains ip <;> rfl
    · intro a
      by_cases he : (ext.lookupIP a).2 = none
      · simp only [lookupOf, he, bne_self_eq_false, Bool.false_eq_true, if_false, if_true]
        rw [goRange_any (ext.lookupIP a).1 () _ _ (fun x => ip == x) (LoopStep.ret (s, true)) (fun _ => rfl),
          List.contains_eq_any_beq]
      · simp [lookupOf, he]
  · simp [hn, jobOf]

/-- the address the callback compares: what stands before the first ':' of `RemoteAddr().String()` -/
def remoteIPOf (c : GoConnMeta) : Bytes := (splitOnByte (58 : UInt8) c.remoteAddr).headD []

/-- the range loop of `Callback` over the jobs, the same text for `ext.schedule` and `ext.continuous`, copied from the
    generated text -/
theorem job_loop (ext : Ext) (s : Server) (u : GoUser) (pw ip : Bytes) (jobs : List GoJob) (e : GoErr) :
    goRange jobs s
      (fun s job =>
        let (_r4, _t5) := Server.backgroundCanSSH ext s u pw ip job.Name job.AllowFrom
        let s := _r4
        let cond_3 := _t5
        if cond_3 then
          LoopStep.ret (Outcome.ok (s, (GoZero.zero : GoPerms), (none : GoErr)))
        else
          LoopStep.next s)
      (fun s => (Outcome.ok (s, (GoZero.zero : GoPerms), e)))
    = Outcome.ok (s, (), if (jobs.map jobOf).any (Dtail.backgroundCanSSH (lookupOf ext) pw ip) then none else e) := by
  rw [goRange_any jobs s _ _ (fun j => Dtail.backgroundCanSSH (lookupOf ext) pw ip (jobOf j)) (Outcome.ok (s, (), none))]
  · simp only [List.any_map, Function.comp_def]
    cases List.any jobs fun j => Dtail.backgroundCanSSH (lookupOf ext) pw ip (jobOf j) <;> rfl
  · intro j
    rw [backgroundCanSSH_refines]

/-- `some true`: returned without an error, that is, access granted; `none`: a panic -/
def granted : Outcome (Server × GoPerms × GoErr) → Option Bool
  | .ok (_, _, e) => some e.isNone
  | _ => none

/-- C09: no panic; when `user.New` fails nothing is granted; otherwise the decision is `passwordCallback` on the name `user.New`
    returned, the password and the address before the first ':' -/
theorem Callback_refines (ext : Ext) (s : Server) (c : GoConnMeta) (pw : Bytes) :
    granted (Server.Callback ext s c pw) = some
      ((ext.userNew c.user c.remoteAddr).2.isNone &&
        passwordCallback (lookupOf ext) (ext.schedule.map jobOf) (ext.continuous.map jobOf)
          (ext.userNew c.user c.remoteAddr).1.Name pw (remoteIPOf c)) := by
  unfold Server.Callback
  dsimp only
  cases herr : (ext.userNew c.user c.remoteAddr).2 with
  | some e => rfl
  | none =>
    -- `splitted[0]` is in range: splitting yields at least one piece
    have hin : goInRange (splitOnByte (58 : UInt8) c.remoteAddr) 0 = true :=
      inRange_of_len _ 0 (Int.le_refl 0) (Int.ofNat_lt.2 (length_splitOnByte_pos _ _))
    have hidx : GoIndex.idx (splitOnByte (58 : UInt8) c.remoteAddr) (0 : Int) = remoteIPOf c := by
      unfold remoteIPOf; cases splitOnByte (58 : UInt8) c.remoteAddr <;> rfl
    rw [show ((none : GoErr) != none) = false from rfl, hin]
    rw [hidx, job_loop, job_loop, lit_health, lit_schedule, lit_continuous]
    unfold passwordCallback
    generalize (ext.userNew c.user c.remoteAddr).1.Name = name
    -- every arm of the switch over the user name returns a nil error exactly when its test holds
    have arm (b : Bool) (p : GoPerms) :
        granted (if b = true then Outcome.ok (s, p, none) else Outcome.ok (s, p, some lit_1)) = some b := by cases b <;> rfl
    have arm' (b : Bool) : granted (Outcome.ok (s, (), if b = true then none else some lit_1)) = some b := by cases b <;> rfl
    by_cases h1 : name = Facts.healthUserBytes
    · rw [if_pos (beq_iff_eq.2 h1), if_pos h1]; exact arm _ _
    rw [if_neg (mt beq_iff_eq.1 h1), if_neg h1]
    by_cases h2 : name = Facts.scheduleUserBytes
    · rw [if_pos (beq_iff_eq.2 h2), if_pos h2]; exact arm' _
    rw [if_neg (mt beq_iff_eq.1 h2), if_neg h2]
    by_cases h3 : name = Facts.continuousUserBytes
    · rw [if_pos (beq_iff_eq.2 h3), if_pos h3]; exact arm' _
    rw [if_neg (mt beq_iff_eq.1 h3), if_neg h3]; rfl

end Dtail.GenAuth
