/-
Liveness side of the session transition system: as long as a session that has been given a
command is not closed, some step is enabled (a reader can queue or finish, the consumer can be
served a line, the flush can complete, the close handshake can be delivered).
-/
import DtailModel.Lemmas.Session
namespace Dtail

/-- a session in phase `running` with no active command has not dispatched any command yet
    (the moment the last active command finishes, shutdown() begins) -/
@[reducible] def SessInv2 (s : Sess) : Prop :=
  s.phase = .running → activeCount s.cmds = 0 → ∀ (c : Nat) (st : CmdSt), s.cmds[c]? = some st → st = CmdSt.notSent

theorem sessInit_inv2 (sizes : List Nat) : SessInv2 (sessInit sizes) :=
  fun _ _ _ _ h => eq_of_getElem?_replicate h

theorem sessStep_inv2 (s s' : Sess) (l : SLabel) (h : SessInv2 s) (hs : sessStep s l = some s') : SessInv2 s' := by
  -- after `recv` and `push` a command is reading; `finish` leaves `running` when it ends the last one; the other
  -- steps leave the commands alone or end in a later phase
  cases sessStep_iff.1 hs with
  | @recv c _ hc | @push c _ _ hc =>
    intro _ ha
    exact absurd ha (Nat.ne_of_gt (activeCount_pos_of_reading _ c _ (List.getElem?_set_self (lt_length_of_getElem? hc))))
  | finish =>
    intro hp ha
    dsimp only at hp ha
    rcases phaseAfterFinish_cases _ s.phase with ⟨-, -, hflush⟩ | ⟨hnot, hsame⟩
    · exact nomatch hflush.symm.trans hp
    · exact absurd ⟨ha, hsame.symm.trans hp⟩ hnot
  | deliver => exact h
  | flushDone | deliverSyn => intro hp; cases hp

theorem sessRun_inv2 (sizes : List Nat) (history : List SLabel) (s : Sess)
    (h : sessRun (sessInit sizes) history = some s) : SessInv2 s :=
  sessIsRun.inv sessStep_inv2 history _ s (sessInit_inv2 sizes) h

theorem exists_reading_of_active (cs : List CmdSt) (h : 0 < activeCount cs) : ∃ (c k : Nat), cs[c]? = some (CmdSt.reading k) := by
  obtain ⟨x, hx⟩ := List.exists_mem_of_length_pos h
  obtain ⟨hm, hr⟩ := List.mem_filter.1 hx
  obtain ⟨c, hc⟩ := List.getElem?_of_mem hm
  cases x with
  | reading k => exact ⟨c, k, hc⟩
  | notSent | done => cases hr

/-- `hcap`: the queue's capacity is a constant read off the source (`Facts.linesCap`); that it is positive is stated where the
    property is, as an obligation on the source, and handed in from there. -/
theorem sess_step_enabled (s : Sess) (i1 : SessInv s) (i2 : SessInv2 s) (hopen : s.phase ≠ .closed)
    (hsent : ∃ (c : Nat) (st : CmdSt), s.cmds[c]? = some st ∧ st ≠ CmdSt.notSent) (hcap : 0 < queueCap) :
    ∃ l s', sessStep s l = some s' := by
  cases hq : s.queue with
  | cons x rest => exact ⟨_, _, sessStep_iff.2 (.deliver hq hopen)⟩
  | nil =>
    cases hp : s.phase with
    | closed => exact absurd hp hopen
    | flushing => exact ⟨_, _, sessStep_iff.2 (.flushDone hp hq)⟩
    | synQueued => exact ⟨_, _, sessStep_iff.2 (.deliverSyn hp)⟩
    | running =>
      have hact : 0 < activeCount s.cmds := by
        obtain ⟨c, st, hc, hne⟩ := hsent
        exact Nat.pos_of_ne_zero fun h0 => hne (i2 hp h0 c st hc)
      obtain ⟨c, k, hc⟩ := exists_reading_of_active s.cmds hact
      have hlt : c < s.sizes.length := i1.len ▸ lt_length_of_getElem? hc
      have hn : s.sizes[c]? = some s.sizes[c] := List.getElem?_eq_getElem hlt
      have hr := i1.range c k _ hc hn
      by_cases hk : k ≤ s.sizes[c]
      · exact ⟨_, _, sessStep_iff.2 (.push hc hn hk (by rw [hq]; exact hcap) hopen)⟩
      · exact ⟨_, _, sessStep_iff.2 (.finish hc hn (by omega) hopen)⟩

end Dtail
