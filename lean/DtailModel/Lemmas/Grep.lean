/-
The grep-context automaton (`Model/Grep.lean`) is its block specification.  `gstep` transcribes the Go code and tests `B`,
`A`, `M` again in every branch; on the states the loop reaches from `ginit` (`GInv`) those tests collapse, and the step has
three plain forms: an unselected line while trailing context is owed (`gstep_owed`) or not (`gstep_gap`), a selected line
(`gstep_hit`).  The runs over a gap and over blocks (`grun_gap`, `grun_blocks`) and the line numbers are read off these.
-/
import DtailModel.Model.Grep
namespace Dtail
variable {α : Type}

theorem unblocks_cons (r : List α) (s : α) (bs : List (List α × α)) (t : List α) :
    unblocks ((r, s) :: bs) t = r.map (fun x => (false, x)) ++ (true, s) :: unblocks bs t := by
  simp [unblocks]

theorem unblocks_blocks (l : List (Bool × α)) : unblocks (blocks l).1 (blocks l).2 = l := by
  induction l with
  | nil => rfl
  | cons p rest ih =>
    obtain ⟨sel, x⟩ := p
    cases sel with
    | true => simp only [blocks, unblocks_cons, List.map_nil, List.nil_append, ih]
    | false =>
      simp only [blocks]
      cases h : blocks rest with
      | mk bs t =>
        rw [h] at ih
        cases bs with
        | nil => rw [← ih]; rfl
        | cons b bs => rw [← ih, unblocks_cons, unblocks_cons]; rfl

theorem lastN_length_le (B : Nat) (l : List α) : (lastN B l).length ≤ B := by
  simp [lastN]; omega

theorem lastN_nil (B : Nat) : lastN B ([] : List α) = [] := by simp [lastN]

theorem lastN_eq_nil_of_zero (l : List α) : lastN 0 l = [] := by simp [lastN]

theorem lastN_of_length_le {B : Nat} {l : List α} (h : l.length ≤ B) : lastN B l = l := by
  simp [lastN, Nat.sub_eq_zero_of_le h]

theorem lastN_suffix (B : Nat) (l : List α) : lastN B l <:+ l := List.drop_suffix _ _

theorem lastN_append_lastN (B : Nat) (l r : List α) : lastN B (lastN B l ++ r) = lastN B (l ++ r) := by
  rcases Nat.le_total l.length B with h | h
  · rw [lastN_of_length_le h]
  · -- `lastN B l` has `B` elements: both sides drop `|l| - B + |r|` elements of `l ++ r`
    simp only [lastN, List.length_append, List.length_drop]
    rw [← List.drop_append_of_le_length (Nat.sub_le _ _), List.drop_drop, Nat.sub_sub_self h, Nat.add_sub_cancel_left,
      Nat.sub_add_comm h]

theorem pushRing_eq_lastN {B : Nat} {g : List α} (x : α) (hB : 0 < B) (hg : g.length ≤ B) :
    pushRing B g x = lastN B (g ++ [x]) := by
  unfold pushRing
  by_cases hlt : g.length < B
  · rw [if_pos hlt, lastN_of_length_le (by rw [List.length_append]; exact hlt)]
  · obtain rfl : g.length = B := Nat.le_antisymm hg (Nat.le_of_not_lt hlt)
    rw [if_neg hlt, lastN, List.length_append, List.length_singleton, Nat.add_sub_cancel_left]
    cases g with
    | nil => exact absurd hB (Nat.lt_irrefl 0)
    | cons a g => rfl

/-- The states the filter loop reaches: the ring is within its capacity, it is empty while trailing context is owed (the
    selected line that set `after` drained it), and nothing is owed without `--after`. -/
structure GInv (B A : Nat) (s : GState α) : Prop where
  fits : s.ring.length ≤ B
  owed : 0 < s.after → s.ring = []
  noA : A = 0 → s.after = 0

theorem ginit_inv (B A M : Nat) : GInv B A (ginit M : GState α) := ⟨Nat.zero_le _, fun _ => rfl, fun _ => rfl⟩

variable {B A : Nat} {s : GState α}

theorem GInv.drained {mc : Nat} {mr : Bool} {a : Nat} (hA : A = 0 → a = 0) : GInv B A (⟨mc, mr, [], a⟩ : GState α) :=
  ⟨Nat.zero_le _, fun _ => rfl, hA⟩

theorem GInv.ring_nil (h : GInv B A s) (hB : ¬ B > 0) : s.ring = [] :=
  List.eq_nil_of_length_eq_zero (by have := h.fits; omega)

theorem GInv.pay (h : GInv B A s) {k : Nat} (ha : s.after = k + 1) : GInv B A { s with after := k } :=
  ⟨h.fits, fun _ => h.owed (by omega), fun h0 => by have := h.noA h0; omega⟩

theorem GInv.push (h : GInv B A s) (ha : s.after = 0) (x : α) :
    GInv B A { s with ring := lastN B (s.ring ++ [x]) } :=
  ⟨lastN_length_le _ _, fun h' => absurd h' (by simp [ha]), h.noA⟩

/-- `lContextNotMatched`, as `gstep` has it -/
theorem gstep_unsel (B A M : Nat) (s : GState α) (x : α) :
    gstep B A M s false x =
      if A > 0 ∧ s.after > 0 then ([x], some { s with after := s.after - 1 })
      else if B > 0 then ([], some { s with ring := pushRing B s.ring x })
      else ([], some s) := rfl

theorem gstep_owed (M : Nat) (x : α) (h : GInv B A s) {k : Nat} (ha : s.after = k + 1) :
    gstep B A M s false x = ([x], some { s with after := k }) := by
  have hA : A > 0 := Nat.pos_of_ne_zero fun h0 => Nat.succ_ne_zero k (ha.symm.trans (h.noA h0))
  rw [gstep_unsel, if_pos ⟨hA, ha ▸ Nat.succ_pos k⟩, ha, Nat.add_sub_cancel]

theorem gstep_gap (M : Nat) (x : α) (h : GInv B A s) (ha : s.after = 0) :
    gstep B A M s false x = ([], some { s with ring := lastN B (s.ring ++ [x]) }) := by
  rw [gstep_unsel, if_neg fun hc => Nat.ne_of_gt hc.2 ha]
  by_cases hB : B > 0
  · rw [if_pos hB, pushRing_eq_lastN x hB h.fits]
  · rw [if_neg hB, Nat.eq_zero_of_not_pos hB, lastN_eq_nil_of_zero, ← h.ring_nil hB]

/-- `lContextProcessMaxCount` after a selected line went out: the ring is drained, `after` is reset -/
def spend (A M : Nat) (s : GState α) : Option (GState α) :=
  if M > 0 then
    if s.maxc - 1 = 0 then (if A = 0 then none else some ⟨s.maxc - 1, true, [], A⟩)
    else some ⟨s.maxc - 1, s.maxReached, [], A⟩
  else some ⟨s.maxc, s.maxReached, [], A⟩

theorem spend_cases (A M : Nat) (s : GState α) :
    spend A M s = none ∨ ∃ mc mr, spend A M s = some ⟨mc, mr, [], A⟩ := by
  unfold spend
  by_cases hM : M > 0
  · rw [if_pos hM]
    by_cases h0 : s.maxc - 1 = 0
    · rw [if_pos h0]
      by_cases hA : A = 0
      · exact Or.inl (if_pos hA)
      · exact Or.inr ⟨_, _, if_neg hA⟩
    · exact Or.inr ⟨_, _, if_neg h0⟩
  · exact Or.inr ⟨_, _, if_neg hM⟩

theorem gstep_hit (M : Nat) (x : α) (h : GInv B A s) :
    gstep B A M s true x =
      if A > 0 ∧ s.maxReached then ([], none) else (s.ring ++ [x], spend A M s) := by
  have hafter : (if A > 0 then A else s.after) = A := by
    by_cases hA : A > 0
    · exact if_pos hA
    · rw [if_neg hA, h.noA (Nat.eq_zero_of_not_pos hA), Nat.eq_zero_of_not_pos hA]
  have hpre : (if B > 0 then s.ring else []) = s.ring := by
    by_cases hB : B > 0
    · exact if_pos hB
    · rw [if_neg hB, h.ring_nil hB]
  have hring : (if B > 0 then [] else s.ring) = [] := by
    by_cases hB : B > 0
    · exact if_pos hB
    · rw [if_neg hB, h.ring_nil hB]
  simp only [gstep, spend, Bool.not_true, Bool.false_eq_true, if_false, hafter, hpre, hring, or_self,
    apply_ite (Prod.mk (s.ring ++ [x]))]

theorem grun_cons (M : Nat) (s : GState α) (sel : Bool) (x : α) (rest : List (Bool × α)) :
    grun B A M s ((sel, x) :: rest) =
      match gstep B A M s sel x with
      | (e, none) => e
      | (e, some s') => e ++ grun B A M s' rest := rfl

theorem grun_gap (M : Nat) (r : List α) (rest : List (Bool × α)) (mc : Nat) (mr : Bool) (g : List α) (a : Nat)
    (h : GInv B A ⟨mc, mr, g, a⟩) :
    grun B A M ⟨mc, mr, g, a⟩ (r.map (fun x => (false, x)) ++ rest)
      = r.take a ++ grun B A M ⟨mc, mr, lastN B (g ++ r.drop a), a - r.length⟩ rest := by
  induction r generalizing g a with
  | nil => simp [lastN_of_length_le h.fits]
  | cons x r ih =>
    rw [List.map_cons, List.cons_append, grun_cons]
    cases a with
    | zero =>
      rw [gstep_gap M x h rfl]
      simp only
      rw [ih _ 0 (h.push rfl x)]
      simp [lastN_append_lastN]
    | succ k =>
      rw [gstep_owed M x h rfl]
      simp only
      rw [ih g k (h.pay rfl)]
      simp

/-- How the automaton's max-count state corresponds to the specification's budget. -/
def Budget (A M : Nat) (mc : Nat) (mr : Bool) : Option Nat → Prop
  | none => M = 0 ∧ mr = false
  | some 0 => M > 0 ∧ mr = true ∧ A > 0
  | some (m + 1) => M > 0 ∧ mr = false ∧ mc = m + 1

theorem specGo_zero_budget (B A : Nat) (bs : List (List α × α)) (t : List α) :
    specGo B A 0 (some 0) bs t = [] := by
  cases bs with
  | nil => simp [specGo]
  | cons b bs => obtain ⟨r, s⟩ := b; simp [specGo]

theorem grun_blocks (M : Nat) (bs : List (List α × α)) (t : List α)
    (mc : Nat) (mr : Bool) (a : Nat) (m : Option Nat)
    (hA : A = 0 → a = 0) (hb : Budget A M mc mr m) :
    grun B A M ⟨mc, mr, [], a⟩ (unblocks bs t) = specGo B A a m bs t := by
  induction bs generalizing mc mr a m with
  | nil =>
    have h := grun_gap (B := B) M t [] mc mr [] a (.drained hA)
    rw [List.append_nil] at h
    rw [unblocks, List.flatMap_nil, List.nil_append, h]
    cases m with
    | none => simp [specGo, grun]
    | some k => cases k <;> simp [specGo, grun]
  | cons b bs ih =>
    obtain ⟨r, s⟩ := b
    have hinv : GInv B A (⟨mc, mr, lastN B (r.drop a), a - r.length⟩ : GState α) :=
      ⟨lastN_length_le _ _, fun (h : 0 < a - r.length) => by rw [List.drop_of_length_le (by omega), lastN_nil],
        fun h0 => by show a - r.length = 0; rw [hA h0]; exact Nat.zero_sub _⟩
    rw [unblocks_cons, grun_gap M r _ mc mr [] a (.drained hA), grun_cons, List.nil_append, gstep_hit M s hinv]
    match m, hb with
    | some 0, ⟨_, hmr, hApos⟩ =>
      -- the budget was used up before: the loop ends at this line without sending it
      rw [if_pos ⟨hApos, hmr⟩, specGo, List.append_nil]
    | none, ⟨hM, hmr⟩ =>
      subst hM hmr
      simp only [spend, Nat.lt_irrefl, if_false, Bool.false_eq_true, and_false]
      rw [ih mc false A none id ⟨rfl, rfl⟩]
      simp [specGo, gapOut]
    | some (k + 1), ⟨hM, hmr, hmc⟩ =>
      subst hmr hmc
      simp only [spend, hM, if_true, Bool.false_eq_true, and_false, if_false, Nat.add_sub_cancel]
      cases k with
      | zero =>
        by_cases hA0 : A = 0
        · -- the last unit and no trailing context to deliver: the loop ends with this line
          simp [hA0, specGo, gapOut, specGo_zero_budget]
        · simp only [if_true, if_neg hA0]
          rw [ih 0 true A (some 0) id ⟨hM, rfl, Nat.pos_of_ne_zero hA0⟩]
          simp [specGo, gapOut]
      | succ k =>
        simp only [Nat.succ_ne_zero, if_false]
        rw [ih (k + 1) false A (some (k + 1)) id ⟨hM, rfl, rfl⟩]
        simp [specGo, gapOut]

theorem grun_eq_spec (B A M : Nat) (ls : List (Bool × α)) :
    grun B A M (ginit M) ls = grepSpec B A M (blocks ls).1 (blocks ls).2 := by
  conv => lhs; rw [← unblocks_blocks ls]
  refine grun_blocks M _ _ M false 0 _ (fun _ => rfl) ?_
  cases M with
  | zero => exact ⟨rfl, rfl⟩
  | succ k => exact ⟨Nat.succ_pos k, rfl, rfl⟩

theorem numberEnding_snd (n : Nat) (e : List α) : (numberEnding n e).map (·.2) = e := by
  rw [numberEnding, List.map_map]
  exact List.zipIdx_map_fst _ e

theorem grunN_snd (B A M : Nat) (s : GState α) (n : Nat) (ls : List (Bool × α)) :
    (grunN B A M s n ls).map (·.2) = grun B A M s ls := by
  induction ls generalizing s n with
  | nil => rfl
  | cons p rest ih =>
    obtain ⟨sel, x⟩ := p
    rw [grunN, grun_cons]
    rcases gstep B A M s sel x with ⟨e, _ | s'⟩
    · exact numberEnding_snd _ e
    · simp only [List.map_append, numberEnding_snd, ih]

theorem plainN_snd {β : Type} (g : Nat → β) (ls : List (Bool × α)) (k : Nat) :
    (((ls.zipIdx k).filter (·.1.1)).map (fun p => (g p.2, p.1.2))).map (·.2) = gplain ls := by
  rw [List.map_map, gplain, ← List.zipIdx_map_fst k ls, List.filter_map, List.map_map, List.zipIdx_map_fst]
  rfl

end Dtail
