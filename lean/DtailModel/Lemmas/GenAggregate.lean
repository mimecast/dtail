/-
internal/mapr/aggregateset.go (`Gen.Mapr`): the translated `Aggregate` and `Merge` with their helpers `addFloat`, `addFloatMin`,
`addFloatMax`, `setString`, `setFloat` refine the column algebra of Model/Aggregate.lean (`contribution`, `combine`, `mergeSet`)
on which the C05 theorems are stated.
-/
import DtailModel.Generated.Code
import DtailModel.Lemmas.GoRT
import DtailModel.Model.Aggregate
import DtailModel.Model.AggregateOps
namespace Dtail.GenAgg
open Dtail Dtail.Go Dtail.Gen.Mapr

/-- the right sides are translated from the iota block of internal/mapr/selectcondition.go -/
theorem opCode_is_source_iota :
    opCode .undef = UndefAggregateOperation ∧ opCode .count = Count ∧ opCode .sum = Gen.Mapr.Sum ∧ opCode .min = Gen.Mapr.Min ∧
    opCode .max = Gen.Mapr.Max ∧ opCode .last = Last ∧ opCode .avg = Avg ∧ opCode .len = Len :=
  ⟨rfl, rfl, rfl, rfl, rfl, rfl, rfl, rfl⟩

/-- the column of the model that a translated aggregate set holds under a storage key -/
def colOf (g : AggregateSet) (k : Bytes) : Col := ⟨g.FValues.get? k, g.SValues.get? k⟩

/-- a column state as an operation produces it; definitionally the `Col.Wf` of Lemmas/AggAlgebra.lean (`C05_wf_same`) -/
def ColWf (op : AggOp) (c : Col) : Prop :=
  match op with
  | .count | .sum | .avg | .min | .max => c.str = none
  | .last => c.num = none
  | .len => (c.num.isSome ↔ c.str.isSome)
  | .undef => c = {}

def contribOf (op : AggOp) (v : Bytes) : Option Col :=
  match op with
  | .count => some ⟨some 1, none⟩
  | .last => some ⟨none, some v⟩
  | .len => some ⟨some v.length, some v⟩
  | .sum | .avg | .min | .max => (parseNum v).map fun n => ⟨some n, none⟩
  | .undef => none

theorem contribution_eq (op : AggOp) (fs : Fields) (field : Bytes) :
    contribution op fs field = (getField fs field).bind (contribOf op) := by
  unfold contribution contribOf
  cases getField fs field <;> cases op <;> rfl

/-- what is assumed of `strconv.ParseFloat`, which is outside the translation: it answers as the model's `parseNum` (decimal
    integers only) -/
def ParseFloatIs (ext : Ext) : Prop :=
  ∀ v, match parseNum v with
    | some n => ext.parseFloat v = (n, none)
    | none => (ext.parseFloat v).2 ≠ none

def SetsCol (g g' : AggregateSet) (k : Bytes) (c : Col) : Prop :=
  colOf g' k = c ∧ (∀ k', k' ≠ k → colOf g' k' = colOf g k') ∧ g'.Samples = g.Samples

theorem SetsCol.refl (g : AggregateSet) (k : Bytes) : SetsCol g g k (colOf g k) := ⟨rfl, fun _ _ => rfl, rfl⟩

theorem SetsCol.trans {g g' g'' : AggregateSet} {k : Bytes} {c c' : Col} (h : SetsCol g g' k c)
    (h' : SetsCol g' g'' k c') : SetsCol g g'' k c' :=
  ⟨h'.1, fun k' hk => (h'.2.1 k' hk).trans (h.2.1 k' hk), h'.2.2.trans h.2.2⟩

theorem SetsCol.fvalues (g : AggregateSet) (k : Bytes) (x : Int) :
    SetsCol g { g with FValues := GoIndex.upd g.FValues k x } k ⟨some x, (colOf g k).str⟩ :=
  ⟨by simp [colOf, GoIndex.upd, GoMap.get?_set_eq],
   fun k' hk => by simp [colOf, GoIndex.upd, GoMap.get?_set_ne _ _ _ _ hk], rfl⟩

theorem SetsCol.svalues (g : AggregateSet) (k v : Bytes) :
    SetsCol g { g with SValues := GoIndex.upd g.SValues k v } k ⟨(colOf g k).num, some v⟩ :=
  ⟨by simp [colOf, GoIndex.upd, GoMap.get?_set_eq],
   fun k' hk => by simp [colOf, GoIndex.upd, GoMap.get?_set_ne _ _ _ _ hk], rfl⟩

theorem idx_fvalues (m : GoMap GoString GoFloat) (k : Bytes) : (GoIndex.idx m k : GoFloat) = (m.get? k).getD 0 := rfl

theorem idxOk_get (ν : Type) [GoZero ν] (m : GoMap GoString ν) (k : Bytes) :
    (GoIndex.idxOk m k : ν × Bool) = (match m.get? k with | some v => (v, true) | none => (GoZero.zero, false)) := rfl

theorem addFloat_col (ext : Ext) (g : AggregateSet) (k : Bytes) (x : Int) :
    SetsCol g (AggregateSet.addFloat ext g k x) k ⟨addNum (colOf g k).num (some x), (colOf g k).str⟩ := by
  unfold AggregateSet.addFloat
  cases h : g.FValues.get? k <;> simpa [idxOk_get, idx_fvalues, h, colOf, addNum] using SetsCol.fvalues g k _

theorem addFloatMin_col (ext : Ext) (g : AggregateSet) (k : Bytes) (x : Int) :
    SetsCol g (AggregateSet.addFloatMin ext g k x) k ⟨minNum (colOf g k).num (some x), (colOf g k).str⟩ := by
  unfold AggregateSet.addFloatMin
  cases h : g.FValues.get? k with
  | none => simpa [idxOk_get, h, colOf, minNum] using SetsCol.fvalues g k x
  | some f =>
    by_cases hgt : f > x
    · simpa [idxOk_get, h, colOf, minNum, hgt] using SetsCol.fvalues g k x
    · simpa [idxOk_get, h, colOf, minNum, hgt] using SetsCol.refl g k

theorem addFloatMax_col (ext : Ext) (g : AggregateSet) (k : Bytes) (x : Int) :
    SetsCol g (AggregateSet.addFloatMax ext g k x) k ⟨maxNum (colOf g k).num (some x), (colOf g k).str⟩ := by
  unfold AggregateSet.addFloatMax
  cases h : g.FValues.get? k with
  | none => simpa [idxOk_get, h, colOf, maxNum] using SetsCol.fvalues g k x
  | some f =>
    by_cases hlt : f < x
    · simpa [idxOk_get, h, colOf, maxNum, hlt] using SetsCol.fvalues g k x
    · simpa [idxOk_get, h, colOf, maxNum, hlt] using SetsCol.refl g k

def numSet (ext : Ext) : AggOp → AggregateSet → Bytes → Int → AggregateSet
  | .min => AggregateSet.addFloatMin ext
  | .max => AggregateSet.addFloatMax ext
  | _ => AggregateSet.addFloat ext

theorem numSet_col (ext : Ext) (op : AggOp) (g : AggregateSet) (k : Bytes) (x : Int)
    (hop : op = .count ∨ op = .sum ∨ op = .avg ∨ op = .min ∨ op = .max) (hwf : (colOf g k).str = none) :
    SetsCol g (numSet ext op g k x) k (combine op (colOf g k) ⟨some x, none⟩) := by
  rcases hop with rfl | rfl | rfl | rfl | rfl <;> simp only [numSet, combine, ← hwf]
  · exact addFloat_col ext g k x
  · exact addFloat_col ext g k x
  · exact addFloat_col ext g k x
  · exact addFloatMin_col ext g k x
  · exact addFloatMax_col ext g k x

theorem setString_col (ext : Ext) (g : AggregateSet) (k v : Bytes) (hwf : (colOf g k).num = none) :
    SetsCol g (AggregateSet.setString ext g k v) k (combine .last (colOf g k) ⟨none, some v⟩) := by
  simpa [AggregateSet.setString, combine, hwf] using SetsCol.svalues g k v

theorem setLen_col (ext : Ext) (g : AggregateSet) (k v : Bytes) (n : Int) :
    SetsCol g (AggregateSet.setFloat ext (AggregateSet.setString ext g k v) k n) k
      (combine .len (colOf g k) ⟨some n, some v⟩) :=
  (SetsCol.svalues g k v).trans <| by
    simpa [AggregateSet.setFloat, AggregateSet.setString, combine, colOf, GoIndex.upd, GoMap.get?_set_eq]
      using SetsCol.fvalues (AggregateSet.setString ext g k v) k n

theorem Aggregate_parsed (ext : Ext) (g : AggregateSet) (k v : Bytes) (op : AggOp)
    (hop : op = .sum ∨ op = .avg ∨ op = .min ∨ op = .max) :
    AggregateSet.Aggregate ext g k (opCode op) v false =
      if (ext.parseFloat v).2 != none then (g, (ext.parseFloat v).2)
      else (numSet ext op g k (ext.parseFloat v).1, (ext.parseFloat v).2) := by
  rcases hop with rfl | rfl | rfl | rfl <;> rfl

/-- server side (`clientAggregation = false`): `Aggregate` on one value is the model's `contribution` followed by `combine`, with
    an error exactly when the value contributes nothing -/
theorem Aggregate_refines (ext : Ext) (hpf : ParseFloatIs ext) (g : AggregateSet) (k v : Bytes) (op : AggOp)
    (hop : op ≠ .undef) (hwf : ColWf op (colOf g k)) :
    let r := AggregateSet.Aggregate ext g k (opCode op) v false
    (r.2 = none ↔ (contribOf op v).isSome) ∧
    SetsCol g r.1 k (match contribOf op v with | some c => combine op (colOf g k) c | none => colOf g k) := by
  intro r
  have hcls : op = .count ∨ op = .last ∨ op = .len ∨ (op = .sum ∨ op = .avg ∨ op = .min ∨ op = .max) := by
    cases op <;> simp at hop ⊢
  rcases hcls with rfl | rfl | rfl | hnum
  · exact ⟨⟨fun _ => rfl, fun _ => rfl⟩, numSet_col ext .count g k 1 (by simp) hwf⟩
  · exact ⟨⟨fun _ => rfl, fun _ => rfl⟩, setString_col ext g k v hwf⟩
  · exact ⟨⟨fun _ => rfl, fun _ => rfl⟩, setLen_col ext g k v v.length⟩
  · have hc : contribOf op v = (parseNum v).map fun n => ⟨some n, none⟩ := by
      rcases hnum with rfl | rfl | rfl | rfl <;> rfl
    have hs : (colOf g k).str = none := by rcases hnum with rfl | rfl | rfl | rfl <;> exact hwf
    have hp := hpf v
    simp only [r, Aggregate_parsed ext g k v op hnum, hc]
    cases hn : parseNum v <;> rw [hn] at hp
    · rw [if_pos (by simpa using hp)]
      exact ⟨by simpa using hp, SetsCol.refl g k⟩
    · rw [hp]
      exact ⟨by simp, numSet_col ext op g k _ (.inr hnum) hs⟩

/-- observational equality of column states: for count / sum / avg an absent number and 0 are the same
    (every rendering and every later merge reads an absent number as 0), otherwise equality -/
def ColObs (op : AggOp) (a b : Col) : Prop :=
  match op with
  | .count | .sum | .avg => a.num.getD 0 = b.num.getD 0 ∧ a.str = b.str
  | _ => a = b

theorem getD_addNum (a b : Option Int) : (addNum a b).getD 0 = a.getD 0 + b.getD 0 := by
  cases a <;> cases b <;> simp [addNum]

/-- the body of the range loop of the translated `Merge`, its `let`s substituted (`Merge_eq` holds by `rfl`) -/
def mergeBody (ext : Ext) (set' : AggregateSet) (s : AggregateSet) (sc : selectCondition) :
    LoopStep (AggregateSet × GoErr) AggregateSet :=
  let storage := sc.FieldStorage
  if (sc.Operation == Count) then
    LoopStep.next (AggregateSet.addFloat ext s storage (GoIndex.idx set'.FValues storage))
  else if (sc.Operation == Gen.Mapr.Sum) then
    LoopStep.next (AggregateSet.addFloat ext s storage (GoIndex.idx set'.FValues storage))
  else if (sc.Operation == Avg) then
    LoopStep.next (AggregateSet.addFloat ext s storage (GoIndex.idx set'.FValues storage))
  else if (sc.Operation == Gen.Mapr.Min) then
    if (GoIndex.idxOk set'.FValues storage).2 then
      LoopStep.next (AggregateSet.addFloatMin ext s storage (GoIndex.idxOk set'.FValues storage).1)
    else LoopStep.next s
  else if (sc.Operation == Gen.Mapr.Max) then
    if (GoIndex.idxOk set'.FValues storage).2 then
      LoopStep.next (AggregateSet.addFloatMax ext s storage (GoIndex.idxOk set'.FValues storage).1)
    else LoopStep.next s
  else if (sc.Operation == Last) then
    if (GoIndex.idxOk set'.SValues storage).2 then
      LoopStep.next (AggregateSet.setString ext s storage (GoIndex.idxOk set'.SValues storage).1)
    else LoopStep.next s
  else if (sc.Operation == Len) then
    if (GoIndex.idxOk set'.SValues storage).2 then
      LoopStep.next (AggregateSet.setFloat ext (AggregateSet.setString ext s storage (GoIndex.idxOk set'.SValues storage).1)
        storage (GoIndex.idx set'.FValues storage))
    else LoopStep.next s
  else LoopStep.ret (s, (some (b!"Unknown aggregation method '%v'")))

theorem Merge_eq (ext : Ext) (s : AggregateSet) (query : Gen.Mapr.Query) (set' : AggregateSet) :
    AggregateSet.Merge ext s query set' =
      goRange query.Select { s with Samples := s.Samples + set'.Samples } (mergeBody ext set') (fun s => (s, none)) := by
  unfold AggregateSet.Merge mergeBody
  rfl

theorem mergeBody_spec (ext : Ext) (g2 s : AggregateSet) (sc : SelCond) (hop : sc.op ≠ .undef)
    (hwf : ColWf sc.op (colOf s sc.storage)) (hwf2 : ColWf sc.op (colOf g2 sc.storage)) :
    ∃ s' c, mergeBody ext g2 s (genSel sc) = .next s' ∧ SetsCol s s' sc.storage c ∧
      ColObs sc.op c (combine sc.op (colOf s sc.storage) (colOf g2 sc.storage)) := by
  obtain ⟨field, storage, op⟩ := sc
  simp only at hop hwf hwf2 ⊢
  have hcls : (op = .count ∨ op = .sum ∨ op = .avg) ∨ (op = .min ∨ op = .max) ∨ op = .last ∨ op = .len := by
    cases op <;> simp at hop ⊢
  rcases hcls with h3 | h2 | rfl | rfl
  · -- count, sum, avg: `set.FValues[storage]` is added without a presence test, so an absent number arrives as 0; hence `ColObs`
    rcases h3 with rfl | rfl | rfl <;>
      exact ⟨_, _, rfl, addFloat_col ext s storage (GoIndex.idx g2.FValues storage),
        by simp [combine, getD_addNum, idx_fvalues, colOf], hwf⟩
  · have hb : mergeBody ext g2 s (genSel ⟨field, storage, op⟩) =
        if (GoIndex.idxOk g2.FValues storage).2 then .next (numSet ext op s storage (GoIndex.idxOk g2.FValues storage).1)
        else .next s := by rcases h2 with rfl | rfl <;> rfl
    have hs : (colOf s storage).str = none := by rcases h2 with rfl | rfl <;> exact hwf
    have hs2 : (colOf g2 storage).str = none := by rcases h2 with rfl | rfl <;> exact hwf2
    rw [hb, idxOk_get]
    cases hg : g2.FValues.get? storage with
    | none =>
      refine ⟨s, _, rfl, SetsCol.refl s storage, ?_⟩
      have hnone : ∀ a : Option Int, minNum a none = a ∧ maxNum a none = a := fun a => by cases a <;> exact ⟨rfl, rfl⟩
      rcases h2 with rfl | rfl <;> simp [ColObs, combine, colOf, hg, hnone, ← hs]
    | some x =>
      refine ⟨_, _, rfl, numSet_col ext op s storage x (by rcases h2 with rfl | rfl <;> simp) hs, ?_⟩
      have : colOf g2 storage = ⟨some x, none⟩ := by rw [← hs2]; simp [colOf, hg]
      rcases h2 with rfl | rfl <;> simp [ColObs, this]
  · rw [show mergeBody ext g2 s (genSel ⟨field, storage, .last⟩) =
        if (GoIndex.idxOk g2.SValues storage).2 then
          .next (AggregateSet.setString ext s storage (GoIndex.idxOk g2.SValues storage).1)
        else .next s from rfl, idxOk_get]
    cases hg : g2.SValues.get? storage with
    | none => exact ⟨s, _, rfl, SetsCol.refl s storage, by simp [ColObs, combine, colOf, hg]; exact hwf⟩
    | some x => exact ⟨_, _, rfl, setString_col ext s storage x hwf, by simp [ColObs, combine, colOf, hg]⟩
  · rw [show mergeBody ext g2 s (genSel ⟨field, storage, .len⟩) =
        if (GoIndex.idxOk g2.SValues storage).2 then
          .next (AggregateSet.setFloat ext (AggregateSet.setString ext s storage (GoIndex.idxOk g2.SValues storage).1)
            storage (GoIndex.idx g2.FValues storage))
        else .next s from rfl, idxOk_get]
    cases hg : g2.SValues.get? storage with
    | none => exact ⟨s, _, rfl, SetsCol.refl s storage, by simp [ColObs, combine, colOf, hg]⟩
    | some x =>
      refine ⟨_, _, rfl, setLen_col ext s storage x _, ?_⟩
      -- a well-formed partial that has a string has its length
      cases hn : g2.FValues.get? storage with
      | none => simp [ColWf, colOf, hn, hg] at hwf2
      | some n => simp [ColObs, combine, colOf, hg, hn, idx_fvalues]

theorem mergeLoop_spec (ext : Ext) (g2 : AggregateSet) (sel : List SelCond)
    (hnd : (sel.map (·.storage)).Nodup) (hops : ∀ sc ∈ sel, sc.op ≠ .undef)
    (hwf2 : ∀ sc ∈ sel, ColWf sc.op (colOf g2 sc.storage)) :
    ∀ s, (∀ sc ∈ sel, ColWf sc.op (colOf s sc.storage)) →
    ∃ s', goRange (sel.map genSel) s (mergeBody ext g2) (fun s => (s, (none : GoErr))) = (s', none) ∧
      (∀ sc ∈ sel, ColObs sc.op (colOf s' sc.storage) (combine sc.op (colOf s sc.storage) (colOf g2 sc.storage))) ∧
      (∀ k, k ∉ sel.map (·.storage) → colOf s' k = colOf s k) ∧ s'.Samples = s.Samples := by
  induction sel with
  | nil => intro s _; exact ⟨s, rfl, nofun, fun _ _ => rfl, rfl⟩
  | cons sc rest ih =>
    intro s hwf
    obtain ⟨hnotin, hnd⟩ := List.nodup_cons.1 hnd
    obtain ⟨hop, hops⟩ := List.forall_mem_cons.1 hops
    obtain ⟨hw2, hwf2⟩ := List.forall_mem_cons.1 hwf2
    obtain ⟨hw, hwf⟩ := List.forall_mem_cons.1 hwf
    obtain ⟨s1, _, hbody, ⟨rfl, hother1, hsam1⟩, hobs1⟩ := mergeBody_spec ext g2 s sc hop hw hw2
    have hne : ∀ sc' ∈ rest, sc'.storage ≠ sc.storage := fun sc' hm heq => hnotin (List.mem_map.2 ⟨sc', hm, heq⟩)
    obtain ⟨s', hloop, hobs, hother, hsam⟩ :=
      ih hnd hops hwf2 s1 fun sc' hm => by rw [hother1 _ (hne sc' hm)]; exact hwf sc' hm
    refine ⟨s', by rw [List.map_cons, goRange_cons, hbody]; exact hloop, ?_, fun k hk => ?_, hsam.trans hsam1⟩
    · refine List.forall_mem_cons.2 ⟨?_, fun x hx => ?_⟩
      · rw [hother _ hnotin]; exact hobs1
      · rw [← hother1 _ (hne x hx)]; exact hobs x hx
    · rw [List.map_cons, List.mem_cons, not_or] at hk
      rw [hother k hk.2, hother1 k hk.1]

/-- `Merge` is the model's `mergeSet` up to `ColObs`, for a select list with pairwise different storage keys: a repeated key is
    the recorded finding `C05-duplicate-select` -/
theorem Merge_refines (ext : Ext) (sel : List SelCond) (hnd : (sel.map (·.storage)).Nodup)
    (hops : ∀ sc ∈ sel, sc.op ≠ .undef) (g g2 : AggregateSet)
    (hwf : ∀ sc ∈ sel, ColWf sc.op (colOf g sc.storage)) (hwf2 : ∀ sc ∈ sel, ColWf sc.op (colOf g2 sc.storage)) :
    let r := AggregateSet.Merge ext g ⟨sel.map genSel⟩ g2
    r.2 = none ∧ r.1.Samples = g.Samples + g2.Samples ∧
    (∀ sc ∈ sel, ColObs sc.op (colOf r.1 sc.storage) (combine sc.op (colOf g sc.storage) (colOf g2 sc.storage))) ∧
    (∀ k, k ∉ sel.map (·.storage) → colOf r.1 k = colOf g k) := by
  intro r
  have hwf' : ∀ sc ∈ sel, ColWf sc.op (colOf { g with Samples := g.Samples + g2.Samples } sc.storage) := hwf
  obtain ⟨s', hloop, hobs, hother, hsam⟩ := mergeLoop_spec ext g2 sel hnd hops hwf2 _ hwf'
  have hr : r = (s', none) := by
    simp only [r, Merge_eq]; exact hloop
  rw [hr]
  exact ⟨rfl, hsam, hobs, hother⟩

end Dtail.GenAgg
