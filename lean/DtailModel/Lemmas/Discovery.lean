import DtailModel.Model.Discovery
import DtailModel.Lemmas.ListFacts
namespace Dtail
variable {α : Type}

theorem shuffle_perm (l : List α) (rs : List Nat) (h : validIdx l.length rs = true) :
    ∃ out, shuffle l rs = some out ∧ out.Perm l := by
  fun_induction shuffle l rs with
  | case1 l =>
    obtain rfl : l = [] := List.eq_nil_of_length_eq_zero (by simpa [validIdx] using h)
    exact ⟨[], rfl, .refl _⟩
  | case2 l r rs hx =>
    simp only [validIdx, Bool.and_eq_true, decide_eq_true_eq] at h
    exact absurd (List.getElem?_eq_none_iff.1 hx) (Nat.not_le.2 h.1)
  | case3 l r rs x hx ih =>
    simp only [validIdx, Bool.and_eq_true, decide_eq_true_eq] at h
    obtain ⟨out, ho, hp⟩ := ih (by rw [List.length_eraseIdx_of_lt h.1]; exact h.2)
    exact ⟨x :: out, by simp [ho], (hp.cons x).trans (perm_cons_eraseIdx l r x hx)⟩

variable [DecidableEq α]

theorem mem_dedup (seen l : List α) (x : α) : x ∈ dedup seen l ↔ x ∈ l ∧ x ∉ seen := by
  fun_induction dedup seen l with
  | case1 => simp
  | case2 _ a xs ha ih => rw [ih]; by_cases hx : x = a <;> simp [hx, ha]
  | case3 _ a xs ha ih => by_cases hx : x = a <;> simp [ih, hx, ha]

theorem nodup_dedup (seen l : List α) : (dedup seen l).Nodup := by
  fun_induction dedup seen l with
  | case1 => exact .nil
  | case2 _ x xs _ ih => exact ih
  | case3 _ x xs _ ih => exact List.nodup_cons.2 ⟨by simp [mem_dedup], ih⟩

theorem dedup_sublist (seen l : List α) : (dedup seen l).Sublist l := by
  fun_induction dedup seen l with
  | case1 => exact .slnil
  | case2 _ x xs _ ih => exact ih.cons x
  | case3 _ x xs _ ih => exact ih.cons_cons x

end Dtail
