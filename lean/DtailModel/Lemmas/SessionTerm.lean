/-
Termination of the session LTS (C02): a measure that every step strictly decreases, hence a bound
on the length of every execution.
-/
import DtailModel.Lemmas.Session
namespace Dtail

/-- steps a command can still cause: dispatch, two per line not yet queued (queue + deliver), end -/
def wOf : CmdSt → Nat → Nat
  | .notSent, n => 2 * n + 2
  | .reading k, n => 2 * (n + 1 - k) + 1
  | .done, _ => 0

def weight : List CmdSt → List Nat → Nat
  | c :: cs, n :: ns => wOf c n + weight cs ns
  | _, _ => 0

def phaseRank : SPhase → Nat
  | .running => 3 | .flushing => 2 | .synQueued => 1 | .closed => 0

def sessMeasure (s : Sess) : Nat := weight s.cmds s.sizes + s.queue.length + phaseRank s.phase

theorem weight_set (cmds : List CmdSt) (sizes : List Nat) (c : Nat) (old new : CmdSt) (n : Nat)
    (hc : cmds[c]? = some old) (hn : sizes[c]? = some n) :
    weight (cmds.set c new) sizes + wOf old n = weight cmds sizes + wOf new n := by
  induction cmds generalizing sizes c with
  | nil => nomatch hc
  | cons x xs ih =>
    match sizes, c, hc, hn with
    | m :: ms, 0, hc, hn =>
      cases hc; cases hn
      show wOf new n + weight xs ms + wOf old n = wOf old n + weight xs ms + wOf new n
      omega
    | m :: ms, c + 1, hc, hn =>
      show wOf x m + weight (xs.set c new) ms + wOf old n = wOf x m + weight xs ms + wOf new n
      rw [Nat.add_assoc, ih ms c hc hn, Nat.add_assoc]

theorem weight_init (sizes : List Nat) :
    weight (List.replicate sizes.length CmdSt.notSent) sizes = 2 * sizes.sum + 2 * sizes.length := by
  induction sizes with
  | nil => rfl
  | cons n ns ih =>
    simp only [List.length_cons, List.replicate_succ, weight, wOf, ih, List.sum_cons]
    omega

theorem phaseRank_afterFinish (cmds : List CmdSt) (p : SPhase) : phaseRank (phaseAfterFinish cmds p) ≤ phaseRank p := by
  rcases phaseAfterFinish_cases cmds p with ⟨-, hrun, hflush⟩ | ⟨-, hsame⟩
  · rw [hflush, hrun]; decide
  · rw [hsame]; exact Nat.le_refl _

theorem sessStep_decreases (s s' : Sess) (l : SLabel) (hi : SessInv s) (hs : sessStep s l = some s') :
    sessMeasure s' < sessMeasure s := by
  cases sessStep_iff.1 hs with
  | @recv c _ hc =>
    have hlt : c < s.sizes.length := hi.len ▸ lt_length_of_getElem? hc
    have := weight_set s.cmds s.sizes c _ (.reading 1) _ hc (List.getElem?_eq_getElem hlt)
    simp only [sessMeasure, wOf] at this ⊢
    omega
  | @push c k n hc hn hk =>
    have := weight_set s.cmds s.sizes c _ (.reading (k + 1)) n hc hn
    simp only [sessMeasure, wOf, List.length_append, List.length_singleton] at this ⊢
    omega
  | @finish c k n hc hn hk =>
    have := weight_set s.cmds s.sizes c _ .done n hc hn
    have hr := phaseRank_afterFinish (s.cmds.set c .done) s.phase
    simp only [sessMeasure, wOf] at this ⊢
    omega
  | deliver hq => simp [sessMeasure, hq]
  | flushDone hp => simp [sessMeasure, hp, phaseRank]
  | deliverSyn hp => simp [sessMeasure, hp, phaseRank]

theorem sessMeasure_init (sizes : List Nat) : sessMeasure (sessInit sizes) = 2 * sizes.sum + 2 * sizes.length + 3 := by
  simp [sessMeasure, sessInit, weight_init, phaseRank]

end Dtail
