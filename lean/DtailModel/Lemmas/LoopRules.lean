/-
Proof rules for a translated body, none of which mentions a translated unit — one per construct: `ite_all` for `if`,
`goRange_inv` for `for … range` (what a round may do is `StepOk`), `goWhile_inv` for `for cond` on fuel; then what
"does not panic" means (`IsOk`) and how the guards the translator puts in front of every index and slice expression are
discharged (`guard_tac`).  Lemma files about other units (`GenOptions`, C12) use this file and not `GenQuery.lean`: a change
to `internal/mapr` that breaks a proof about the query parser must not stop C12's theorems from checking.
-/
import DtailModel.Model.GoRT

namespace Dtail.Go

theorem goRange_nil {α ρ σ : Type} (init : σ) (body : σ → α → LoopStep ρ σ) (after : σ → ρ) :
    goRange [] init body after = after init := rfl

theorem goRange_cons {α ρ σ : Type} (x : α) (xs : List α) (init : σ) (body : σ → α → LoopStep ρ σ) (after : σ → ρ) :
    goRange (x :: xs) init body after =
      match body init x with
      | .ret r => r
      | .next s => goRange xs s body after
      | .brk s => after s := rfl

theorem goRange_fold_mem {α ρ σ : Type} (l : List α) (s0 : σ) (body : σ → α → LoopStep ρ σ) (after : σ → ρ)
    (step : σ → α → σ) (h : ∀ s, ∀ x ∈ l, body s x = .next (step s x)) :
    goRange l s0 body after = after (l.foldl step s0) := by
  induction l generalizing s0 with
  | nil => rfl
  | cons x xs ih =>
    rw [goRange_cons, h s0 x List.mem_cons_self]
    exact ih _ fun s y hy => h s y (List.mem_cons_of_mem x hy)

theorem goRange_fold {α ρ σ : Type} (l : List α) (s0 : σ) (body : σ → α → LoopStep ρ σ) (after : σ → ρ)
    (step : σ → α → σ) (h : ∀ s x, body s x = .next (step s x)) :
    goRange l s0 body after = after (l.foldl step s0) :=
  goRange_fold_mem l s0 body after step fun s x _ => h s x

theorem foldl_snoc {α β : Type} (f : α → β) (l : List α) (acc : List β) :
    l.foldl (fun acc x => acc ++ [f x]) acc = acc ++ l.map f := by
  induction l generalizing acc with
  | nil => simp
  | cons x xs ih => simp [ih]

theorem ite_all {α : Type} (P : α → Prop) {c : Prop} [Decidable c] {a b : α} (ha : c → P a) (hb : ¬c → P b) :
    P (if c then a else b) := by
  by_cases h : c
  · rw [if_pos h]; exact ha h
  · rw [if_neg h]; exact hb h

/-- what one round of a loop may do: return a good value, go on in a good state, or leave the loop for a good end -/
def StepOk {ρ σ : Type} (P : ρ → Prop) (I : σ → Prop) (after : σ → ρ) : LoopStep ρ σ → Prop
  | .ret r => P r
  | .next s => I s
  | .brk s => P (after s)

theorem StepOk.imp {ρ σ : Type} {P : ρ → Prop} {I J : σ → Prop} {after : σ → ρ} {st : LoopStep ρ σ} (h : ∀ s, I s → J s)
    (hs : StepOk P I after st) : StepOk P J after st := by
  cases st
  · exact hs
  · exact h _ hs
  · exact hs

/-- a `range` loop with an invariant over the state and the elements still to come -/
theorem goRange_inv {α ρ σ : Type} (P : ρ → Prop) (I : σ → List α → Prop) {body : σ → α → LoopStep ρ σ} {after : σ → ρ}
    {l : List α} {s0 : σ} (h0 : I s0 l)
    (hbody : ∀ s x xs, I s (x :: xs) → StepOk P (fun s' => I s' xs) after (body s x))
    (hafter : ∀ s, I s [] → P (after s)) :
    P (goRange l s0 body after) := by
  induction l generalizing s0 with
  | nil => exact hafter s0 h0
  | cons x xs ih =>
    have hb := hbody s0 x xs h0
    rw [goRange_cons]
    cases hbs : body s0 x <;> rw [hbs] at hb
    · exact hb
    · exact ih hb
    · exact hb

theorem goRange_all {α ρ σ : Type} (P : ρ → Prop) (l : List α) (body : σ → α → LoopStep ρ σ) (after : σ → ρ)
    (hbody : ∀ s x r, body s x = .ret r → P r) (hafter : ∀ s, P (after s)) (s0 : σ) :
    P (goRange l s0 body after) := by
  refine goRange_inv P (fun _ _ => True) trivial (fun s x _ _ => ?_) fun s _ => hafter s
  cases hb : body s x
  · exact hbody s x _ hb
  · trivial
  · exact hafter _

/-- a `for cond` loop with an invariant, each round of which decreases a measure that starts below the fuel: the fuel does
    not run out -/
theorem goWhile_inv {ρ σ : Type} (P : ρ → Prop) (I : σ → Prop) (μ : σ → Nat) {cond : σ → Bool} {body : σ → LoopStep ρ σ}
    {after : σ → ρ} {out : ρ} {fuel : Nat} {s0 : σ} (h0 : I s0) (hμ : μ s0 < fuel)
    (hbody : ∀ s, I s → cond s = true → StepOk P (fun s' => I s' ∧ μ s' < μ s) after (body s))
    (hafter : ∀ s, I s → cond s = false → P (after s)) :
    P (goWhile fuel s0 cond body after out) := by
  induction fuel generalizing s0 with
  | zero => cases hμ
  | succ n ih =>
    unfold goWhile
    refine ite_all P (fun hc => ?_) (fun hc => hafter s0 h0 (Bool.eq_false_iff.2 hc))
    have hb := hbody s0 h0 hc
    cases hbs : body s0 <;> rw [hbs] at hb
    · exact hb
    · exact ih hb.1 (Nat.lt_of_lt_of_le hb.2 (Nat.le_of_lt_succ hμ))
    · exact hb

theorem goWhile_measure {ρ σ : Type} (P : ρ → Prop) (μ : σ → Nat) {cond : σ → Bool} {body : σ → LoopStep ρ σ}
    {after : σ → ρ} {out : ρ} {fuel : Nat} {s0 : σ} (h0 : μ s0 < fuel)
    (hbody : ∀ s, μ s < fuel → cond s = true → StepOk P (fun s' => μ s' < μ s) after (body s))
    (hafter : ∀ s, P (after s)) :
    P (goWhile fuel s0 cond body after out) :=
  goWhile_inv P (fun s => μ s < fuel) μ h0 h0
    (fun s hs hc => (hbody s hs hc).imp fun _ h => ⟨Nat.lt_trans h hs, h⟩) fun s _ _ => hafter s

theorem len_list {α : Type} (l : List α) : (GoLen.len l : Int) = (l.length : Int) := rfl

theorem inRange_of_len {α : Type} (l : List α) (i : Int) (h0 : 0 ≤ i) (h : i < (l.length : Int)) : goInRange l i = true :=
  decide_eq_true ⟨h0, h⟩

theorem sliceOk_of_len {α : Type} (l : List α) (lo : Int) (h0 : 0 ≤ lo) (h : lo ≤ (l.length : Int)) :
    goSliceOk l lo (GoLen.len l) = true :=
  decide_eq_true ⟨h0, h, Int.le_refl _⟩

theorem guard_rule {α : Type} (P : α → Prop) {c : Prop} [Decidable c] {a b : α} (hc : c) (ha : P a) : P (if c then a else b) := by
  rw [if_pos hc]; exact ha

/-- Go's tests on lengths and the translator's guards, here or in the hypotheses named, become linear arithmetic over
    `List.length`, which decides the goal -/
macro "guard_tac" loc:(Lean.Parser.Tactic.location)? : tactic => `(tactic| (
  simp only [goInRange, goSliceOk, len_list, decide_eq_true_eq, decide_eq_false_iff_not, beq_iff_eq, beq_eq_false_iff_ne,
    bne_iff_ne, bne_eq_false_iff_eq, ne_eq, Bool.and_eq_true, Bool.and_eq_false_iff, Bool.or_eq_true, Bool.or_eq_false_iff,
    Bool.not_eq_true, Bool.not_eq_true'] $[$loc]?
  omega))

end Dtail.Go

namespace Dtail.GenQuery

/-- the function returned a value (possibly with a Go `error` in it): it did not panic -/
def IsOk {α : Type} (o : Outcome α) : Prop := ∃ v, o = .ok v

end Dtail.GenQuery
