import DtailModel.Lemmas.GoStr
import DtailModel.Lemmas.ListFacts
namespace Dtail

@[simp] theorem texts_append (a b : List Seg) : texts (a ++ b) = texts a ++ texts b := by
  induction a with
  | nil => rfl
  | cons s a ih => cases s <;> simp [texts, ih]

theorem trimNL_join (t : Bytes) : (trimNL t).1 ++ (if (trimNL t).2 then [NL] else []) = t := by
  unfold trimNL
  split
  · rename_i h
    obtain ⟨ys, rfl⟩ := List.getLast?_eq_some_iff.1 h
    simp
  · simp

@[simp] theorem texts_paintWithAttr (fg bg attr t : Bytes) : texts (paintWithAttr fg bg attr t) = t := by
  simpa [paintWithAttr, texts, apply_ite texts] using trimNL_join t

@[simp] theorem texts_paintKey (tbl : Tbl) (a b : String) (t : Bytes) :
    texts (paintKey tbl a b t) = t := by simp [paintKey]

@[simp] theorem texts_paintDefault (t : Bytes) : texts (paintDefault t) = t := by simp [paintDefault]

@[simp] theorem texts_paintText (tbl : Tbl) (s : String) (t : Bytes) : texts (paintText tbl s t) = t := by
  -- whichever colours are chosen, the text is painted by `paintKey`
  unfold paintText paintSeverity
  by_cases hw : hasPrefix (b!"WARN") t
  · rw [if_pos hw]; exact texts_paintKey ..
  rw [if_neg hw]
  by_cases he : hasPrefix (b!"ERROR") t
  · rw [if_pos he]; exact texts_paintKey ..
  rw [if_neg he]
  by_cases hf : hasPrefix (b!"FATAL") t
  · rw [if_pos hf]; exact texts_paintKey ..
  · rw [if_neg hf]; exact texts_paintKey ..

@[simp] theorem texts_delim (tbl : Tbl) (s : String) : texts (delim tbl s) = [PIPE] := by simp [delim]

theorem texts_paintRemote (tbl : Tbl) (line : Bytes) : texts (paintRemote tbl line) = line := by
  unfold paintRemote
  have hj := joinByte_splitN PIPE 5 line
  split
  · rename_i f0 f1 f2 f3 f4 f5 h
    rw [h] at hj
    simpa [joinByte, apply_ite texts] using hj
  · simp

theorem texts_paint3 (tbl : Tbl) (a b : String) (line : Bytes) : texts (paint3 tbl a b line) = line := by
  unfold paint3
  have hj := joinByte_splitN PIPE 2 line
  split
  · rename_i f0 f1 f2 h
    rw [h] at hj
    simpa [joinByte] using hj
  · simp

theorem texts_colorfy (tbl : Tbl) (line : Bytes) : texts (colorfy tbl line) = line := by
  -- every branch paints the whole line
  rw [colorfy, apply_ite texts, apply_ite texts, apply_ite texts, texts_paintRemote, texts_paint3, texts_paint3,
    texts_paintDefault, ite_self, ite_self, ite_self]

/-- `SplitN(line, "|", 6)` has at most six parts: past the length test there are exactly six and every index is there. -/
theorem paintRemoteO_eq (tbl : Tbl) (line : Bytes) : paintRemoteO tbl line = .ok (paintRemote tbl line) := by
  unfold paintRemoteO paintRemote
  by_cases hl : (splitN PIPE 6 line).length < 6
  · rw [if_pos hl]
    split
    · rename_i h; rw [h] at hl; exact absurd hl (Nat.lt_irrefl 6)
    · rfl
  · obtain ⟨a, b, c, d, e, f, h⟩ := list_len6 _ (Nat.le_antisymm (splitN_length_le PIPE 6 line) (Nat.le_of_not_lt hl))
    rw [h]; rfl

theorem paint3O_eq (tbl : Tbl) (s f : String) (line : Bytes) : paint3O tbl s f line = .ok (paint3 tbl s f line) := by
  unfold paint3O paint3
  by_cases hl : (splitN PIPE 3 line).length < 3
  · rw [if_pos hl]
    split
    · rename_i h; rw [h] at hl; exact absurd hl (Nat.lt_irrefl 3)
    · rfl
  · obtain ⟨a, b, c, h⟩ := list_len3 _ (Nat.le_antisymm (splitN_length_le PIPE 3 line) (Nat.le_of_not_lt hl))
    rw [h]; rfl

end Dtail
