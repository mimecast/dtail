/-
The authorisation model of Model/Auth.lean in closed form: the key loop collects the keys of the key lines, and a
background job lets a login in when the password is its name and the address is one of its hosts'.
-/
import DtailModel.Model.Auth
namespace Dtail

theorem collectKeys_eq_filterMap (keyOf : Bytes → Option Key) (fuel : Nat) (lines : List Bytes)
    (hf : lines.length < fuel) : collectKeys keyOf fuel lines = lines.filterMap keyOf := by
  induction lines generalizing fuel with
  | nil => cases fuel with
    | zero => cases hf
    | succ f => rfl
  | cons l rest ih =>
    cases fuel with
    | zero => cases hf
    | succ f =>
      cases hk : keyOf l with
      | some k => simp only [collectKeys, parseAuthorizedKey, hk, List.filterMap_cons, ih f (Nat.lt_of_succ_lt_succ hf)]
      | none =>
        -- the line is skipped: the same round continues on `rest`
        have hstep : collectKeys keyOf (f + 1) (l :: rest) = collectKeys keyOf (f + 1) rest := by
          simp only [collectKeys, parseAuthorizedKey, hk]
        rw [hstep, ih (f + 1) (Nat.lt_of_succ_lt hf), List.filterMap_cons, hk]

theorem backgroundCanSSH_iff (lookup : Bytes → List Bytes) (pw ip : Bytes) (j : Job) :
    backgroundCanSSH lookup pw ip j = true ↔ pw = j.name ∧ ∃ a ∈ j.allowFrom, ip ∈ lookup a := by
  simp [backgroundCanSSH]

end Dtail
