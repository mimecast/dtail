/-
Tie G for the CSV outfile writer: `GroupSet.WriteResult`, `writeQueryFile`, `getOutfileFD`, `resultWriteUnformatted`,
`resultWriteUnformattedHeader` of internal/mapr/groupsetresult.go as translated from the working tree on this run
(`Generated/Code.lean`, namespace `Gen.Outfile`).  Every operation on the file system is recorded, in order, in the history the
translation adds to the receiver; `ext.ioErr` decides whether one fails.  Each function is shown equal to a `run`
(`Lemmas/GoRT.lean`) of its list of operations; from that: when nothing fails the history is the model's `writeResultOps` (what
the crash theorems of C15 speak about); whatever fails, the function returns and what it did is a prefix of that list.
Names: `…G` is a list of operations as the generated code performs it, `rwu` is `resultWriteUnformatted`; after the equations
`…_run` the families `…_ok` (nothing fails), `…_returns` (no panic), `…_any` (a prefix) state, function by function, what follows.
-/
import DtailModel.Generated.Code
import DtailModel.Lemmas.GoRT
import DtailModel.Model.Outfile
import DtailModel.Model.OutfileOps
namespace Dtail.GenOutfile
open Dtail Dtail.Go Dtail.Gen.Outfile

abbrev GQuery := Gen.Outfile.Query
abbrev GOutfile := Gen.Outfile.Outfile
abbrev GRow := Gen.Outfile.result
abbrev OStep := LoopStep (Outcome (GroupSet × GoErr)) GroupSet

theorem toFOp_ofFOp (o : FOp) : toFOp (ofFOp o) = some o := by cases o <;> rfl

def NoIOErr (ext : Ext) : Prop := ∀ h op, ext.ioErr h op = none

theorem none_bne : ((none : GoErr) != none) = false := rfl
theorem some_bne (e : GoString) : ((some e : GoErr) != none) = true := rfl

theorem tmp_lit : b!".tmp" = TMP := rfl
theorem query_lit : lit_0 = QUERYEXT := rfl

theorem goRange_acc {α ρ σ : Type} (l : List α) (s0 : σ) (body : σ → α → LoopStep ρ σ) (after : σ → ρ)
    (step : σ → α → σ) (h : ∀ s x, body s x = .next (step s x)) :
    goRange l s0 body after = after (l.foldl step s0) := goRange_fold l s0 body after step h

theorem goRange_until {α ρ σ : Type} (l : List α) (s0 : σ) (body : σ → α → LoopStep ρ σ) (after : σ → ρ)
    (stop : α → Bool) (step : σ → α → σ) (h : ∀ s x, body s x = if stop x then .brk s else .next (step s x)) :
    goRange l s0 body after = after ((l.takeWhile (fun x => !stop x)).foldl step s0) := by
  induction l generalizing s0 with
  | nil => rfl
  | cons x xs ih =>
    rw [goRange_cons, h s0 x]
    cases hs : stop x
    · simp only [hs, Bool.false_eq_true, if_false, List.takeWhile_cons, Bool.not_false, if_true, List.foldl_cons]; exact ih _
    · simp only [hs, if_true, List.takeWhile_cons, Bool.not_true, Bool.false_eq_true, if_false, List.foldl_nil]

/-- the receiver and the error a function hands back after a run -/
def _root_.Dtail.Go.Ran.ret (r : Ran) : GroupSet × GoErr := (⟨r.1⟩, r.2)

theorem Ran.ret_ok (h : List GoFOp) : Ran.ret (h, none) = (⟨h⟩, none) := rfl

theorem Ran.ret_andThen (r : Ran) (k : List GoFOp → Ran) :
    (r.andThen k).ret = r.elim (fun h => (k h).ret) fun h e => (⟨h⟩, some e) := by
  rcases r with ⟨h, _ | e⟩ <;> rfl

/-- `for i, x := range l` from index `k` on -/
def enumFrom {α : Type} (k : Nat) : List α → List (Int × α)
  | [] => []
  | x :: xs => ((k : Int), x) :: enumFrom (k + 1) xs

theorem goEnum_eq {α : Type} (l : List α) : goEnum l = enumFrom 0 l := by
  unfold goEnum
  suffices h : ∀ k, (l.zipIdx k).map (fun (a, i) => ((i : Int), a)) = enumFrom k l from h 0
  induction l with
  | nil => intro k; rfl
  | cons x xs ih => intro k; simp only [List.zipIdx_cons, List.map_cons, enumFrom]; rw [ih]

def cellG (fd : GoString) (last : Int) (x : Int × GoString) : List GoFOp :=
  [GoFOp.write fd x.2] ++ if x.1 == last then [] else [GoFOp.write fd [44]]

/-- one CSV line as the code writes it: every value, a comma (44) after it unless its index is `last` -/
def lineG (fd : GoString) (last : Int) : List (Int × GoString) → List GoFOp
  | [] => []
  | (j, v) :: rest => GoFOp.write fd v :: ((if j == last then [] else [GoFOp.write fd [44]]) ++ lineG fd last rest)

theorem lineG_flatMap (fd : GoString) (last : Int) (l : List (Int × GoString)) : lineG fd last l = l.flatMap (cellG fd last) := by
  induction l with
  | nil => rfl
  | cons x l ih => simp only [lineG, cellG, ih, List.flatMap_cons, List.cons_append, List.nil_append]

def rowStep (fd : GoString) (last : Int) (g : GroupSet) (x : Int × GRow) : GroupSet :=
  ⟨g.ops ++ (lineG fd last (goEnum x.2.values) ++ [GoFOp.write fd [10]])⟩

/-- the rows the loop of `resultWriteUnformatted` writes: all up to the one whose index is the limit -/
def rowsUpTo (limit : Int) (rows : List GRow) : List (Int × GRow) :=
  (goEnum rows).takeWhile (fun x => !(x.1 == limit))

def rowsFull (fd : GoString) (last limit : Int) : List (Int × GRow) → List GoFOp
  | [] => []
  | x :: rest => if x.1 == limit then [] else (lineG fd last (goEnum x.2.values) ++ [GoFOp.write fd [10]]) ++ rowsFull fd last limit rest

theorem rowsFull_eq (fd : GoString) (last limit : Int) (l : List (Int × GRow)) :
    rowsFull fd last limit l
      = (l.takeWhile (fun x => !(x.1 == limit))).flatMap fun x => lineG fd last (goEnum x.2.values) ++ [GoFOp.write fd [10]] := by
  induction l with
  | nil => rfl
  | cons x rest ih =>
    rw [rowsFull, List.takeWhile_cons]
    cases (x.1 == limit)
    · rw [if_neg Bool.false_ne_true, Bool.not_false, if_pos rfl, List.flatMap_cons, ih]
    · rfl

/-- the end of `resultWriteUnformatted` when nothing fails: the rename of the temporary file, for a final result in replace mode -/
def renameFull (o : GOutfile) (final : Bool) : List GoFOp :=
  if (!o.AppendMode && final) then [GoFOp.rename (o.FilePath ++ TMP) o.FilePath] else []

def tableG (query : GQuery) (rows : List GRow) (fd : GoString) (writeHeader : Bool) : List GoFOp :=
  (if writeHeader then
      lineG fd (GoLen.len query.Select - 1) ((goEnum query.Select).map fun x => (x.1, x.2.FieldStorage)) ++ [GoFOp.write fd [10]]
    else [])
  ++ ((rowsUpTo query.Limit rows).flatMap fun x => lineG fd (GoLen.len query.Select - 1) (goEnum x.2.values) ++ [GoFOp.write fd [10]])

/-- what `resultWriteUnformatted` does when nothing fails -/
def rwuOps (query : GQuery) (o : GOutfile) (rows : List GRow) (fd : GoString) (writeHeader final : Bool) : List GoFOp :=
  let last : Int := GoLen.len query.Select - 1
  (if writeHeader then lineG fd last ((goEnum query.Select).map fun x => (x.1, x.2.FieldStorage)) ++ [GoFOp.write fd [10]] else [])
  ++ ((rowsUpTo query.Limit rows).flatMap fun x => lineG fd last (goEnum x.2.values) ++ [GoFOp.write fd [10]])
  ++ (if (!o.AppendMode && final) then [GoFOp.rename (o.FilePath ++ TMP) o.FilePath] else [])

/-- the operations of `writeQueryFile` -/
def queryG (query : GQuery) (o : GOutfile) : List GoFOp :=
  [GoFOp.open (o.FilePath ++ QUERYEXT ++ TMP) .trunc, .write (o.FilePath ++ QUERYEXT ++ TMP) query.RawQuery,
    .rename (o.FilePath ++ QUERYEXT ++ TMP) (o.FilePath ++ QUERYEXT)]

/-- the operation of `getOutfileFD`, and the descriptor it returns -/
def openG (o : GOutfile) : List GoFOp :=
  if o.AppendMode then [GoFOp.open o.FilePath .append] else [GoFOp.open (o.FilePath ++ TMP) .trunc]
def fdG (o : GOutfile) : GoString := if o.AppendMode then o.FilePath else o.FilePath ++ TMP

/-- `os.Stat` answers for the file system `fs`: the size of a file that exists, an error for one that does not -/
def StatAgrees (ext : Ext) (fs : FS) : Prop :=
  ∀ p, match fsGet fs p with
    | some c => ext.osStat p = ({ size := (c.length : Int) }, none)
    | none => (ext.osStat p).2 ≠ none

/-- the header decision of `WriteResult` as the code takes it -/
def headerG (ext : Ext) (o : GOutfile) : Bool :=
  !(o.AppendMode && ((ext.osStat o.FilePath).2 == none && decide ((ext.osStat o.FilePath).1.size > 0)))

def rowsOf (ext : Ext) : List GRow := ext.rowValues.map fun v => ({ values := v } : GRow)

/-- the operations of a `WriteResult` in which nothing fails, in the translation's own terms (`WriteResult_ok`) -/
def fullG (ext : Ext) (query : GQuery) (o : GOutfile) (final : Bool) : List GoFOp :=
  [GoFOp.open (o.FilePath ++ QUERYEXT ++ TMP) .trunc, .write (o.FilePath ++ QUERYEXT ++ TMP) query.RawQuery,
    .rename (o.FilePath ++ QUERYEXT ++ TMP) (o.FilePath ++ QUERYEXT)]
  ++ (if o.AppendMode then [GoFOp.open o.FilePath .append] else [GoFOp.open (o.FilePath ++ TMP) .trunc])
  ++ rwuOps query o (rowsOf ext) (if o.AppendMode then o.FilePath else o.FilePath ++ TMP) (headerG ext o) final

/-- the end of `resultWriteUnformatted` from history `h`: the rename of a final result written in replace mode, and when that
    fails the removal of the temporary file, whose own failure is ignored -/
def finishG (ext : Ext) (o : GOutfile) (final : Bool) (h : List GoFOp) : Ran :=
  match run ext h (renameFull o final) with
  | (h', some e) => ((goEffect ext h' (GoFOp.remove (o.FilePath ++ TMP))).1, some e)
  | r => r

/-- `resultWriteUnformatted` from history `h` -/
def rwuRan (ext : Ext) (query : GQuery) (o : GOutfile) (rows : List GRow) (fd : GoString) (writeHeader final : Bool)
    (h : List GoFOp) : Ran :=
  (run ext h (tableG query rows fd writeHeader)).andThen (finishG ext o final)

/-! The equations below speak of the translated text in a normal form (`checked`: an operation and the test of its error); the
statements further down that quote the translator's text agree with it by unfolding. -/

theorem cell_run {τ : Type} (ext : Ext) (fd : GoString) (last : Int) (h : List GoFOp) (x : Int × GoString)
    (next stop : List GoFOp → GoErr → τ) :
    checked ext h (GoFOp.write fd x.2)
        (fun h e => if x.1 == last then next h e else checked ext h (GoFOp.write fd [44]) next stop) stop
      = (run ext h (cellG fd last x)).elim (fun h => next h none) (fun h e => stop h (some e)) := by
  rw [cellG, run_append, checked_run, Ran.elim_andThen]
  rcases run ext h [_] with ⟨h', _ | e⟩
  · by_cases hl : (x.1 == last) = true
    · simp only [Ran.elim_ok, hl, if_true]; rfl
    · simp only [Ran.elim_ok, hl, Bool.false_eq_true, if_false, checked_run]
  · rfl

/-- the translated loop over the values of one row -/
def innerLoop (ext : Ext) (fd : GoString) (last : Int) (vals : List (Int × GoString)) (g : GroupSet) : OStep :=
  goRange vals g
    (fun g y => checked ext g.ops (GoFOp.write fd y.2)
      (fun h _ => if y.1 == last then .next ⟨h⟩ else
        checked ext h (GoFOp.write fd [44]) (fun h _ => .next ⟨h⟩) fun h e => .ret (.ret (.ok (⟨h⟩, e))))
      fun h e => .ret (.ret (.ok (⟨h⟩, e))))
    (fun g => checked ext g.ops (GoFOp.write fd [10]) (fun h _ => .next ⟨h⟩) fun h e => .ret (.ok (⟨h⟩, e)))

theorem inner_run (ext : Ext) (fd : GoString) (last : Int) (vals : List (Int × GoString)) (g : GroupSet) :
    innerLoop ext fd last vals g
      = (run ext g.ops (lineG fd last vals ++ [GoFOp.write fd [10]])).elim (fun h => .next ⟨h⟩)
          (fun h e => .ret (.ok (⟨h⟩, some e))) := by
  rw [run_append, lineG_flatMap, Ran.elim_andThen]
  exact goRange_run ext GroupSet.ops GroupSet.mk _ _ _ _ _ (fun _ => rfl) (fun _ => checked_run ..) (fun _ _ => cell_run ..) vals g

/-- the loop of `resultWriteUnformattedHeader` -/
theorem header_loop_run (ext : Ext) (fd : GoString) (last : Int) (l : List (Int × selectCondition)) (e0 : GoErr) (g : GroupSet) :
    goRange l (e0, g)
        (fun (s : GoErr × GroupSet) (x : Int × selectCondition) => checked ext s.2.ops (GoFOp.write fd x.2.FieldStorage)
          (fun h e => if x.1 == last then LoopStep.next (e, ⟨h⟩) else
            checked ext h (GoFOp.write fd [44]) (fun h e => .next (e, ⟨h⟩)) fun h e => .ret (⟨h⟩, e))
          fun h e => .ret (⟨h⟩, e))
        (fun s => Ran.ret (goEffect ext s.2.ops (GoFOp.write fd [10])))
      = (run ext g.ops (lineG fd last (l.map fun x => (x.1, x.2.FieldStorage)) ++ [GoFOp.write fd [10]])).ret := by
  rw [run_append, lineG_flatMap, List.flatMap_map, Ran.ret_andThen]
  refine goRange_run ext (fun s => s.2.ops) (fun h => (none, ⟨h⟩)) _ _ _ _ _ (fun _ => rfl) ?_ ?_ l (e0, g)
  · intro s; rw [goEffect_run]
  · intro s x; exact cell_run ext fd last s.2.ops (x.1, x.2.FieldStorage) _ _

theorem header_run (ext : Ext) (g : GroupSet) (query : GQuery) (fd : GoString) (last : Int) :
    GroupSet.resultWriteUnformattedHeader ext g query fd last
      = (run ext g.ops (lineG fd last ((goEnum query.Select).map fun x => (x.1, x.2.FieldStorage)) ++ [GoFOp.write fd [10]])).ret :=
  header_loop_run ext fd last (goEnum query.Select) _ g

theorem writeQueryFile_run (ext : Ext) (g : GroupSet) (query : GQuery) (o : GOutfile) (ho : query.Outfile = some o) :
    GroupSet.writeQueryFile ext g query = Outcome.ok (run ext g.ops (queryG query o)).ret := by
  unfold GroupSet.writeQueryFile queryG
  simp only [ho, Option.isSome_some, if_true, goEffect_run, run_cons, goDeref_some, tmp_lit, query_lit]
  rcases run ext g.ops [_] with ⟨h1, _ | e1⟩
  · dsimp only [Ran.andThen_ok]
    rcases run ext h1 [_] with ⟨h2, _ | e2⟩ <;> rfl
  · rfl

theorem getOutfileFD_run (ext : Ext) (g : GroupSet) (query : GQuery) (o : GOutfile) (ho : query.Outfile = some o) :
    GroupSet.getOutfileFD ext g query
      = Outcome.ok (⟨(run ext g.ops (openG o)).1⟩, fdG o, (run ext g.ops (openG o)).2) := by
  unfold GroupSet.getOutfileFD openG fdG
  simp only [ho, Option.isSome_some, if_true, goEffect_run, goDeref_some, tmp_lit]
  cases o.AppendMode <;> rfl

/-- the translated end of `resultWriteUnformatted` -/
def tailCode (ext : Ext) (o : GOutfile) (final : Bool) (g : GroupSet) : Outcome (GroupSet × GoErr) :=
  if (!o.AppendMode && final) then
    checked ext g.ops (GoFOp.rename (o.FilePath ++ TMP) o.FilePath) (fun h _ => .ok (⟨h⟩, none))
      fun h e => .ok (⟨(goEffect ext h (GoFOp.remove (o.FilePath ++ TMP))).1⟩, e)
  else .ok (g, none)

theorem tail_run (ext : Ext) (o : GOutfile) (final : Bool) (g : GroupSet) :
    tailCode ext o final g = .ok (finishG ext o final g.ops).ret := by
  unfold tailCode finishG renameFull
  cases (!o.AppendMode && final)
  · rfl
  · rw [if_pos rfl, if_pos rfl, checked_run]
    rcases run ext g.ops [_] with ⟨h, _ | e⟩ <;> rfl

theorem rows_run (ext : Ext) (o : GOutfile) (final : Bool) (fd : GoString) (last limit : Int) (l : List (Int × GRow)) (g : GroupSet) :
    goRange l g (fun g x => if x.1 == limit then .brk g else innerLoop ext fd last (goEnum x.2.values) g) (tailCode ext o final)
      = .ok ((run ext g.ops (rowsFull fd last limit l)).andThen (finishG ext o final)).ret := by
  induction l generalizing g with
  | nil => exact tail_run ext o final g
  | cons x l ih =>
    rw [rowsFull, goRange_cons]
    by_cases hl : (x.1 == limit) = true
    · rw [if_pos hl, if_pos hl]; exact tail_run ext o final g
    · rw [if_neg hl, if_neg hl, run_append, inner_run]
      rcases run ext g.ops _ with ⟨h, _ | e⟩
      · exact ih ⟨h⟩
      · rfl

theorem rwu_run (ext : Ext) (g : GroupSet) (query : GQuery) (o : GOutfile) (ho : query.Outfile = some o)
    (rows : List GRow) (fd : GoString) (writeHeader final : Bool) :
    GroupSet.resultWriteUnformatted ext g query rows fd writeHeader final
      = Outcome.ok (rwuRan ext query o rows fd writeHeader final g.ops).ret := by
  unfold GroupSet.resultWriteUnformatted rwuRan tableG rowsUpTo
  rw [ho, ← rowsFull_eq]
  cases writeHeader
  · rw [if_neg Bool.false_ne_true, if_neg Bool.false_ne_true, List.nil_append]
    -- the translated loop and its end unfold to `innerLoop` and `tailCode` (the guards `query.Outfile != nil` evaluate)
    exact rows_run ext o final fd _ _ _ g
  · rw [if_pos rfl, if_pos rfl, run_append, header_run]
    rcases run ext g.ops _ with ⟨h, _ | e⟩
    · exact rows_run ext o final fd _ _ _ ⟨h⟩
    · rfl

/-- `WriteResult` from history `h`: the query file, the open of the outfile, then `resultWriteUnformatted` -/
def writeResultRan (ext : Ext) (query : GQuery) (o : GOutfile) (final : Bool) (h : List GoFOp) : Ran :=
  (run ext h (queryG query o)).andThen fun h => (run ext h (openG o)).andThen
    (rwuRan ext query o (rowsOf ext) (fdG o) (headerG ext o) final)

theorem WriteResult_run (ext : Ext) (g : GroupSet) (query : GQuery) (o : GOutfile) (ho : query.Outfile = some o) (final : Bool) :
    GroupSet.WriteResult ext g query final = Outcome.ok (writeResultRan ext query o final g.ops).ret := by
  unfold GroupSet.WriteResult Query.HasOutfile writeResultRan
  have hne : ((some o : Option GOutfile) != none) = true := rfl
  simp only [hne, ho, Option.isSome_some, if_true, goDeref_some, Bool.not_true, Bool.false_eq_true, if_false,
    writeQueryFile_run ext _ query o ho]
  -- each call is rewritten only once its receiver is a history in plain sight, so that the `if err != nil` tests that
  -- follow can be decided
  rcases run ext g.ops (queryG query o) with ⟨h1, _ | e1⟩
  · simp only [Ran.ret_ok, Ran.andThen_ok, none_bne, Bool.false_eq_true, if_false, getOutfileFD_run ext _ query o ho]
    rcases run ext h1 (openG o) with ⟨h2, _ | e2⟩
    · simp only [Ran.andThen_ok, none_bne, Bool.false_eq_true, if_false, rwu_run ext _ query o ho, headerG, rowsOf, Prod.eta]
      -- the three copies of the continuation differ in `writeHeader` only, which is `headerG`
      cases o.AppendMode
      · rw [if_neg Bool.false_ne_true, Bool.false_and, Bool.not_false]
      · rw [if_pos rfl, Bool.true_and]
        cases ((ext.osStat o.FilePath).2 == none && decide ((ext.osStat o.FilePath).1.size > 0))
        · rw [if_neg Bool.false_ne_true, Bool.not_false]
        · rw [if_pos rfl, Bool.not_true]
    · simp only [some_bne, if_true, ite_self]; rfl
  · rfl

theorem finishG_ok {ext : Ext} (hio : NoIOErr ext) (o : GOutfile) (final : Bool) (h : List GoFOp) :
    finishG ext o final h = (h ++ renameFull o final, none) := by
  unfold finishG; rw [run_ok hio]

theorem rwuRan_ok {ext : Ext} (hio : NoIOErr ext) (query : GQuery) (o : GOutfile) (rows : List GRow) (fd : GoString)
    (writeHeader final : Bool) (h : List GoFOp) :
    rwuRan ext query o rows fd writeHeader final h = (h ++ rwuOps query o rows fd writeHeader final, none) := by
  unfold rwuRan; rw [run_ok hio, Ran.andThen_ok, finishG_ok hio, List.append_assoc]; rfl

theorem writeQueryFile_ok (ext : Ext) (hio : NoIOErr ext) (g : GroupSet) (query : GQuery) (o : GOutfile)
    (ho : query.Outfile = some o) :
    GroupSet.writeQueryFile ext g query = Outcome.ok
      (⟨g.ops ++ [GoFOp.open (o.FilePath ++ QUERYEXT ++ TMP) .trunc, .write (o.FilePath ++ QUERYEXT ++ TMP) query.RawQuery,
        .rename (o.FilePath ++ QUERYEXT ++ TMP) (o.FilePath ++ QUERYEXT)]⟩, none) := by
  rw [writeQueryFile_run ext g query o ho, run_ok hio]; rfl

theorem getOutfileFD_ok (ext : Ext) (hio : NoIOErr ext) (g : GroupSet) (query : GQuery) (o : GOutfile)
    (ho : query.Outfile = some o) :
    GroupSet.getOutfileFD ext g query = Outcome.ok
      (if o.AppendMode then (⟨g.ops ++ [GoFOp.open o.FilePath .append]⟩, o.FilePath, none)
       else (⟨g.ops ++ [GoFOp.open (o.FilePath ++ TMP) .trunc]⟩, o.FilePath ++ TMP, none)) := by
  rw [getOutfileFD_run ext g query o ho, run_ok hio]
  unfold openG fdG
  cases o.AppendMode <;> rfl

theorem header_ok (ext : Ext) (hio : NoIOErr ext) (g : GroupSet) (query : GQuery) (fd : GoString) (last : Int) :
    GroupSet.resultWriteUnformattedHeader ext g query fd last
      = (⟨g.ops ++ lineG fd last ((goEnum query.Select).map fun x => (x.1, x.2.FieldStorage)) ++ [GoFOp.write fd [10]]⟩,
          none) := by
  rw [header_run, run_ok hio, List.append_assoc]; rfl

theorem rows_body (ext : Ext) (hio : NoIOErr ext) (fd : GoString) (last limit : Int) (g : GroupSet) (x : Int × GRow) :
    (match x with
      | (i, r) =>
        if (i == limit) then
          (LoopStep.brk g : LoopStep (Outcome (GroupSet × GoErr)) GroupSet)
        else
          goRange (goEnum r.values) g
            (fun g (j, value) =>
              let (_h3, _e3) := goEffect ext g.ops (GoFOp.write fd value)
              let g := { g with ops := _h3 }
              let _t4 := (GoLen.len value)
              let _t5 := _e3
              let _u6 := _t4
              let err := _t5
              if (err != none) then
                LoopStep.ret (LoopStep.ret (Outcome.ok (g, err)))
              else
                if (j == last) then
                  LoopStep.next g
                else
                  let (_h7, _e7) := goEffect ext g.ops (GoFOp.write fd ([44] : GoString))
                  let g := { g with ops := _h7 }
                  let _t8 := (GoLen.len ([44] : GoString))
                  let _t9 := _e7
                  let _u10 := _t8
                  let err := _t9
                  if (err != none) then
                    LoopStep.ret (LoopStep.ret (Outcome.ok (g, err)))
                  else
                    LoopStep.next g)
            (fun g =>
              let (_h11, _e11) := goEffect ext g.ops (GoFOp.write fd ([10] : GoString))
              let g := { g with ops := _h11 }
              let _t12 := (GoLen.len ([10] : GoString))
              let _t13 := _e11
              let _u14 := _t12
              let err := _t13
              if (err != none) then
                LoopStep.ret (Outcome.ok (g, err))
              else
                LoopStep.next g))
    = if (fun (x : Int × GRow) => x.1 == limit) x then .brk g else .next (rowStep fd last g x) := by
  exact congrArg (ite _ _) ((inner_run ..).trans (by rw [run_ok hio]; rfl))

theorem rwu_ok (ext : Ext) (hio : NoIOErr ext) (g : GroupSet) (query : GQuery) (o : GOutfile)
    (ho : query.Outfile = some o) (rows : List GRow) (fd : GoString) (writeHeader final : Bool) :
    GroupSet.resultWriteUnformatted ext g query rows fd writeHeader final
      = Outcome.ok (⟨g.ops ++ rwuOps query o rows fd writeHeader final⟩, none) := by
  rw [rwu_run ext g query o ho, rwuRan_ok hio]; rfl

/-- **what the translated `WriteResult` does when no file operation fails**, in the translation's own terms -/
theorem WriteResult_ok (ext : Ext) (hio : NoIOErr ext) (g : GroupSet) (query : GQuery) (o : GOutfile)
    (ho : query.Outfile = some o) (final : Bool) :
    GroupSet.WriteResult ext g query final = Outcome.ok
      (⟨g.ops ++ ([GoFOp.open (o.FilePath ++ QUERYEXT ++ TMP) .trunc, .write (o.FilePath ++ QUERYEXT ++ TMP) query.RawQuery,
          .rename (o.FilePath ++ QUERYEXT ++ TMP) (o.FilePath ++ QUERYEXT)]
        ++ (if o.AppendMode then [GoFOp.open o.FilePath .append] else [GoFOp.open (o.FilePath ++ TMP) .trunc])
        ++ rwuOps query o (rowsOf ext) (if o.AppendMode then o.FilePath else o.FilePath ++ TMP) (headerG ext o) final)⟩, none) := by
  rw [WriteResult_run ext g query o ho, writeResultRan, run_ok hio, Ran.andThen_ok, run_ok hio, Ran.andThen_ok, rwuRan_ok hio,
    List.append_assoc, List.append_assoc]
  rfl

/-- the function returned (a value, possibly carrying a Go `error`): it did not panic -/
def Returned {α : Type} (o : Outcome α) : Prop := ∃ v, o = Outcome.ok v

/-- **`resultWriteUnformatted` never panics, whichever file operation fails**: given an outfile, every path — a failing
    header write, a failing value, delimiter or newline write, a failing rename followed by the removal of the temporary
    file — returns -/
theorem rwu_returns (ext : Ext) (g : GroupSet) (query : GQuery) (o : GOutfile) (ho : query.Outfile = some o)
    (rows : List GRow) (fd : GoString) (writeHeader final : Bool) :
    Returned (GroupSet.resultWriteUnformatted ext g query rows fd writeHeader final) := by
  rw [rwu_run ext g query o ho]; exact ⟨_, rfl⟩

theorem writeQueryFile_returns (ext : Ext) (g : GroupSet) (query : GQuery) (o : GOutfile) (ho : query.Outfile = some o) :
    Returned (GroupSet.writeQueryFile ext g query) := by
  rw [writeQueryFile_run ext g query o ho]; exact ⟨_, rfl⟩

theorem getOutfileFD_returns (ext : Ext) (g : GroupSet) (query : GQuery) (o : GOutfile) (ho : query.Outfile = some o) :
    Returned (GroupSet.getOutfileFD ext g query) := by
  rw [getOutfileFD_run ext g query o ho]; exact ⟨_, rfl⟩

/-- **the translated `WriteResult` never panics, whichever file operations fail**: with an outfile in the query, for every
    behaviour of `ext.ioErr`, `os.Stat` and every result, the function returns (with or without a Go error) — no nil
    dereference on any error path -/
theorem WriteResult_returns (ext : Ext) (g : GroupSet) (query : GQuery) (o : GOutfile) (ho : query.Outfile = some o)
    (final : Bool) : Returned (GroupSet.WriteResult ext g query final) := by
  rw [WriteResult_run ext g query o ho]; exact ⟨_, rfl⟩

/-- the recorded operations without the removals of the temporary file (which follow a failed rename only) -/
def clean (l : List GoFOp) : List GoFOp := l.filter fun op => match op with | .remove _ => false | _ => true

/-- a stage that was to perform `full` ended with history `ops0 ++ pre`: `pre` (without removals) is a prefix of `full`, all of it
    when the stage reports no error -/
def Good (full ops0 : List GoFOp) (r : GroupSet × GoErr) : Prop :=
  ∃ pre, r.1.ops = ops0 ++ pre ∧ clean pre <+: full ∧ (r.2 = none → clean pre = full)

theorem goEffect_cases (ext : Ext) (h : List GoFOp) (op : GoFOp) :
    goEffect ext h op = (h ++ [op], none) ∨ ∃ e, goEffect ext h op = (h, some e) := by
  unfold goEffect
  cases ext.ioErr h op with
  | none => exact Or.inl rfl
  | some e => exact Or.inr ⟨e, rfl⟩

theorem clean_write (fd d : GoString) : clean [GoFOp.write fd d] = [GoFOp.write fd d] := rfl
theorem clean_append (a b : List GoFOp) : clean (a ++ b) = clean a ++ clean b := by simp [clean]

theorem clean_flatMap {α : Type} (f : α → List GoFOp) (hf : ∀ x, clean (f x) = f x) (l : List α) :
    clean (l.flatMap f) = l.flatMap f := by
  induction l with
  | nil => rfl
  | cons x l ih => rw [List.flatMap_cons, clean_append, hf, ih]

theorem clean_line (fd : GoString) (last : Int) (l : List (Int × GoString)) :
    clean (lineG fd last l ++ [GoFOp.write fd [10]]) = lineG fd last l ++ [GoFOp.write fd [10]] := by
  rw [clean_append, lineG_flatMap, clean_flatMap _ (fun x => by unfold cellG; split <;> rfl)]; rfl

theorem clean_rowsFull (fd : GoString) (last limit : Int) (l : List (Int × GRow)) :
    clean (rowsFull fd last limit l) = rowsFull fd last limit l := by
  rw [rowsFull_eq]; exact clean_flatMap _ (fun x => clean_line ..) _

theorem Good.seq {a b ops0 hist pre : List GoFOp} {r : GroupSet × GoErr}
    (h1 : hist = ops0 ++ pre) (hfull : clean pre = a) (h2 : Good b hist r) : Good (a ++ b) ops0 r := by
  obtain ⟨pre2, hp1, hp2, hp3⟩ := h2
  refine ⟨pre ++ pre2, by rw [hp1, h1, List.append_assoc], ?_, ?_⟩
  · rw [clean_append, hfull]; exact (List.prefix_append_right_inj _).2 hp2
  · intro he; rw [clean_append, hfull, hp3 he]

theorem Good.shift {x rest ops0 : List GoFOp} {r : GroupSet × GoErr} (hx : clean x = x) (h : Good rest (ops0 ++ x) r) :
    Good (x ++ rest) ops0 r := by
  exact Good.seq rfl hx h

theorem Good.of_run {ext : Ext} {a : List GoFOp} (ha : clean a = a) (h : List GoFOp) : Good a h (run ext h a).ret := by
  obtain ⟨pre, h1, h2, h3⟩ := run_prefix ext h a
  exact ⟨pre, h1, ha ▸ h2.filter _, fun he => by rw [h3 he, ha]⟩

theorem Good.andThen {ext : Ext} {a b : List GoFOp} {k : List GoFOp → Ran} (ha : clean a = a)
    (hk : ∀ h, Good b h (k h).ret) (h : List GoFOp) : Good (a ++ b) h ((run ext h a).andThen k).ret := by
  have hg := Good.of_run (ext := ext) ha h
  generalize run ext h a = r at hg ⊢
  obtain ⟨pre, h1, h2, h3⟩ := hg
  rcases r with ⟨h', _ | e⟩
  · exact Good.seq h1 (h3 rfl) (hk h')
  · exact ⟨pre, h1, h2.trans (List.prefix_append _ _), fun he => by cases he⟩

theorem Good.remove {ext : Ext} {full ops0 h : List GoFOp} {e : GoString} (p : GoString) (hg : Good full ops0 (⟨h⟩, some e)) :
    Good full ops0 (⟨(goEffect ext h (GoFOp.remove p)).1⟩, some e) := by
  obtain ⟨pre, h1, h2, _⟩ := hg
  rcases goEffect_cases ext h (GoFOp.remove p) with hr | ⟨e', hr⟩ <;> rw [hr]
  · exact ⟨pre ++ [GoFOp.remove p], by rw [← List.append_assoc, ← h1], by rw [clean_append]; simpa [clean] using h2,
      fun he => by cases he⟩
  · exact ⟨pre, h1, h2, fun he => by cases he⟩

theorem finishG_good (ext : Ext) (o : GOutfile) (final : Bool) (h : List GoFOp) :
    Good (renameFull o final) h (finishG ext o final h).ret := by
  have := Good.of_run (ext := ext) (a := renameFull o final) (by unfold renameFull; split <;> rfl) h
  unfold finishG
  generalize run ext h (renameFull o final) = r at this ⊢
  rcases r with ⟨h', _ | e⟩
  · exact this
  · exact Good.remove _ this

theorem rwuRan_good (ext : Ext) (query : GQuery) (o : GOutfile) (rows : List GRow) (fd : GoString) (writeHeader final : Bool)
    (h : List GoFOp) :
    Good (rwuOps query o rows fd writeHeader final) h (rwuRan ext query o rows fd writeHeader final h).ret := by
  refine Good.andThen ?_ (finishG_good ext o final) h
  rw [clean_append, clean_flatMap _ (fun x => clean_line ..)]
  cases writeHeader
  · rfl
  · rw [if_pos rfl, clean_line]

/-- **the header loop under any failures** -/
theorem header_any (ext : Ext) (query : GQuery) (fd : GoString) (last : Int) :
    ∀ (l : List (Int × selectCondition)) (e0 : GoErr) (g : GroupSet),
      Good (lineG fd last (l.map fun x => (x.1, x.2.FieldStorage)) ++ [GoFOp.write fd [10]]) g.ops
        (goRange l (e0, g)
          (fun (err, g) (i, sc) =>
            let (_h1, _e1) := goEffect ext g.ops (GoFOp.write fd sc.FieldStorage)
            let g := { g with ops := _h1 }
            let _t2 := (GoLen.len sc.FieldStorage)
            let _t3 := _e1
            let err := _t3
            if (err != none) then
              LoopStep.ret (g, err)
            else
              if (i == last) then
                LoopStep.next (err, g)
              else
                let (_h4, _e4) := goEffect ext g.ops (GoFOp.write fd ([44] : GoString))
                let g := { g with ops := _h4 }
                let _t5 := (GoLen.len ([44] : GoString))
                let _t6 := _e4
                let err := _t6
                if (err != none) then
                  LoopStep.ret (g, err)
                else
                  LoopStep.next (err, g))
          (fun (err, g) =>
            let (_h7, _e7) := goEffect ext g.ops (GoFOp.write fd ([10] : GoString))
            let g := { g with ops := _h7 }
            let _t8 := (GoLen.len ([10] : GoString))
            let _t9 := _e7
            let err := _t9
            (g, err))) := by
  intro l e0 g
  exact (congrArg (Good _ _) (header_loop_run ..)).mpr (Good.of_run (clean_line ..) _)

/-- what one row's inner loop may hand to the loop over the rows: go on with the whole line written, or leave the function
    with an error and a prefix of the line written -/
def InnerGood (fullLine ops0 : List GoFOp) : OStep → Prop
  | .next g' => g'.ops = ops0 ++ fullLine
  | .ret (.ok (g', some _)) => ∃ pre, g'.ops = ops0 ++ pre ∧ pre <+: fullLine
  | _ => False

/-- **one row under any failures** -/
theorem inner_any (ext : Ext) (fd : GoString) (last : Int) :
    ∀ (vals : List (Int × GoString)) (g : GroupSet),
      InnerGood (lineG fd last vals ++ [GoFOp.write fd [10]]) g.ops
        (goRange vals g
          (fun g (y : Int × GoString) =>
            let (_h3, _e3) := goEffect ext g.ops (GoFOp.write fd y.2)
            let g := { g with ops := _h3 }
            let _t4 := (GoLen.len y.2)
            let _t5 := _e3
            let _u6 := _t4
            let err := _t5
            if (err != none) then
              LoopStep.ret (LoopStep.ret (Outcome.ok (g, err)))
            else
              if (y.1 == last) then
                LoopStep.next g
              else
                let (_h7, _e7) := goEffect ext g.ops (GoFOp.write fd ([44] : GoString))
                let g := { g with ops := _h7 }
                let _t8 := (GoLen.len ([44] : GoString))
                let _t9 := _e7
                let _u10 := _t8
                let err := _t9
                if (err != none) then
                  LoopStep.ret (LoopStep.ret (Outcome.ok (g, err)))
                else
                  LoopStep.next g)
          (fun g =>
            let (_h11, _e11) := goEffect ext g.ops (GoFOp.write fd ([10] : GoString))
            let g := { g with ops := _h11 }
            let _t12 := (GoLen.len ([10] : GoString))
            let _t13 := _e11
            let _u14 := _t12
            let err := _t13
            if (err != none) then
              (LoopStep.ret (Outcome.ok (g, err)) : OStep)
            else
              LoopStep.next g)) := by
  intro vals g
  refine (congrArg (InnerGood _ _) (inner_run ..)).mpr ?_
  obtain ⟨pre, h1, h2, h3⟩ := run_prefix ext g.ops (lineG fd last vals ++ [GoFOp.write fd [10]])
  rcases hr : run ext g.ops _ with ⟨h, _ | e⟩ <;> rw [hr] at h1 h3
  · exact h1.trans (by rw [h3 rfl])
  · exact ⟨pre, h1, h2⟩

def GoodO (full ops0 : List GoFOp) (o : Outcome (GroupSet × GoErr)) : Prop := ∃ r, o = Outcome.ok r ∧ Good full ops0 r

/-- **the loop over the rows and the rename, under any failures** -/
theorem rows_any (ext : Ext) (query : GQuery) (o : GOutfile) (fd : GoString) (final : Bool) :
    ∀ (l : List (Int × GRow)) (g : GroupSet),
      GoodO (rowsFull fd (GoLen.len query.Select - 1) query.Limit l ++ renameFull o final) g.ops
        (goRange l g
          (fun g (x : Int × GRow) =>
            if (x.1 == query.Limit) then
              (LoopStep.brk g : OStep)
            else
              goRange (goEnum x.2.values) g
                (fun g (y : Int × GoString) =>
                  let (_h3, _e3) := goEffect ext g.ops (GoFOp.write fd y.2)
                  let g := { g with ops := _h3 }
                  let _t4 := (GoLen.len y.2)
                  let _t5 := _e3
                  let _u6 := _t4
                  let err := _t5
                  if (err != none) then
                    LoopStep.ret (LoopStep.ret (Outcome.ok (g, err)))
                  else
                    if (y.1 == (GoLen.len query.Select - 1)) then
                      LoopStep.next g
                    else
                      let (_h7, _e7) := goEffect ext g.ops (GoFOp.write fd ([44] : GoString))
                      let g := { g with ops := _h7 }
                      let _t8 := (GoLen.len ([44] : GoString))
                      let _t9 := _e7
                      let _u10 := _t8
                      let err := _t9
                      if (err != none) then
                        LoopStep.ret (LoopStep.ret (Outcome.ok (g, err)))
                      else
                        LoopStep.next g)
                (fun g =>
                  let (_h11, _e11) := goEffect ext g.ops (GoFOp.write fd ([10] : GoString))
                  let g := { g with ops := _h11 }
                  let _t12 := (GoLen.len ([10] : GoString))
                  let _t13 := _e11
                  let _u14 := _t12
                  let err := _t13
                  if (err != none) then
                    (LoopStep.ret (Outcome.ok (g, err)) : OStep)
                  else
                    LoopStep.next g))
          (fun g =>
            if ((!(goDeref (some o)).AppendMode) && final) then
              let tmpOutfile := ((goDeref (some o)).FilePath ++ ([46, 116, 109, 112] : GoString))
              let (_h15, _e15) := goEffect ext g.ops (GoFOp.rename tmpOutfile (goDeref (some o)).FilePath)
              let g := { g with ops := _h15 }
              let _t16 := _e15
              let err := _t16
              if (err != none) then
                let (_h17, _e17) := goEffect ext g.ops (GoFOp.remove tmpOutfile)
                let g := { g with ops := _h17 }
                (Outcome.ok (g, err))
              else
                (Outcome.ok (g, none))
            else
              (Outcome.ok (g, none)))) := by
  intro l g
  exact ⟨_, rows_run ext o final fd _ _ l g, Good.andThen (clean_rowsFull ..) (finishG_good ext o final) _⟩

/-- **`resultWriteUnformatted` under any failures**: what it did is a prefix of what it does when nothing fails -/
theorem rwu_any (ext : Ext) (g : GroupSet) (query : GQuery) (o : GOutfile) (ho : query.Outfile = some o)
    (rows : List GRow) (fd : GoString) (wh final : Bool) :
    GoodO (rwuOps query o rows fd wh final) g.ops (GroupSet.resultWriteUnformatted ext g query rows fd wh final) := by
  exact ⟨_, rwu_run ext g query o ho rows fd wh final, rwuRan_good ..⟩

theorem writeQueryFile_any (ext : Ext) (g : GroupSet) (query : GQuery) (o : GOutfile) (ho : query.Outfile = some o) :
    GoodO [GoFOp.open (o.FilePath ++ QUERYEXT ++ TMP) .trunc, .write (o.FilePath ++ QUERYEXT ++ TMP) query.RawQuery,
        .rename (o.FilePath ++ QUERYEXT ++ TMP) (o.FilePath ++ QUERYEXT)] g.ops
      (GroupSet.writeQueryFile ext g query) := by
  exact ⟨_, writeQueryFile_run ext g query o ho, Good.of_run rfl _⟩

/-- `getOutfileFD` under any failures: the open, or nothing; without an error the descriptor is the target -/
theorem getOutfileFD_any (ext : Ext) (g : GroupSet) (query : GQuery) (o : GOutfile) (ho : query.Outfile = some o) :
    ∃ g' fd e, GroupSet.getOutfileFD ext g query = Outcome.ok (g', fd, e) ∧
      Good (if o.AppendMode then [GoFOp.open o.FilePath .append] else [GoFOp.open (o.FilePath ++ TMP) .trunc]) g.ops (g', e) ∧
      (e = none → fd = if o.AppendMode then o.FilePath else o.FilePath ++ TMP) := by
  exact ⟨_, _, _, getOutfileFD_run ext g query o ho, Good.of_run (by split <;> rfl) _, fun _ => rfl⟩

theorem GoodO.seq {a b ops0 : List GoFOp} {g1 : GroupSet} {o : Outcome (GroupSet × GoErr)} {pre : List GoFOp}
    (h1 : g1.ops = ops0 ++ pre) (hfull : clean pre = a) (h2 : GoodO b g1.ops o) : GoodO (a ++ b) ops0 o := by
  obtain ⟨r, hr, h2⟩ := h2
  exact ⟨r, hr, Good.seq h1 hfull h2⟩

/-- **the translated `WriteResult` under any failures**: whatever `ext.ioErr` makes fail, the function returns, and what it has
    done (the removal of the temporary file after a failed rename aside) is a prefix of what it does when nothing fails — all
    of it when it reports no error -/
theorem WriteResult_any (ext : Ext) (g : GroupSet) (query : GQuery) (o : GOutfile) (ho : query.Outfile = some o) (final : Bool) :
    GoodO (fullG ext query o final) g.ops (GroupSet.WriteResult ext g query final) := by
  refine ⟨_, WriteResult_run ext g query o ho final, ?_⟩
  unfold fullG
  rw [List.append_assoc]
  exact Good.andThen rfl (fun h => Good.andThen (by split <;> rfl) (rwuRan_good ext query o _ _ _ final) h) _

/-- the code's line is the model's: commas between the values, when the line has as many values as there are columns -/
theorem lineG_model (fd : GoString) (n : Nat) (vals : List GoString) (k : Nat) (hk : k + vals.length = n) :
    lineG fd ((n : Int) - 1) (enumFrom k vals) ++ [GoFOp.write fd [10]] = (csvLineWrites fd vals).map ofFOp := by
  induction vals generalizing k with
  | nil => rfl
  | cons v rest ih =>
    rw [enumFrom, lineG]
    -- the comma after `v` in the code is the comma in front of the next value in the model
    cases rest with
    | nil => rw [beq_iff_eq.2 (by simp at hk; omega), if_pos rfl]; rfl
    | cons w rest' =>
      rw [beq_eq_false_iff_ne.2 (by simp at hk; omega), if_neg Bool.false_ne_true, List.cons_append, List.append_assoc,
        ih (k + 1) (by simp at hk ⊢; omega)]
      rfl

theorem enumFrom_map {α β : Type} (f : α → β) (k : Nat) (l : List α) :
    (enumFrom k l).map (fun x => (x.1, f x.2)) = enumFrom k (l.map f) := by
  induction l generalizing k with
  | nil => rfl
  | cons x xs ih => simp only [enumFrom, List.map_cons, ih]

theorem enumFrom_flatMap {α β : Type} (f : α → List β) (k : Nat) (l : List α) :
    (enumFrom k l).flatMap (fun x => f x.2) = l.flatMap f := by
  induction l generalizing k with
  | nil => rfl
  | cons x xs ih => simp only [enumFrom, List.flatMap_cons, ih]

theorem takeWhile_enumFrom_add {α : Type} (k n : Nat) (l : List α) :
    (enumFrom k l).takeWhile (fun x => !(x.1 == (k : Int) + n)) = enumFrom k (l.take n) := by
  induction l generalizing k n with
  | nil => rw [List.take_nil]; rfl
  | cons x xs ih =>
    rw [enumFrom, List.takeWhile_cons]
    cases n with
    | zero => rw [Int.natCast_zero, Int.add_zero, beq_self_eq_true]; rfl
    | succ n =>
      have hlt : (k : Int) < (k : Int) + (n + 1 : Nat) := Int.lt_add_of_pos_right _ (Int.natCast_pos.2 n.succ_pos)
      have hk : (k : Int) + (n + 1 : Nat) = ((k + 1 : Nat) : Int) + n := by omega
      rw [beq_eq_false_iff_ne.2 (Int.ne_of_lt hlt), Bool.not_false, if_pos rfl, List.take_succ_cons, enumFrom, hk, ih]

/-- `if i == limit { break }`: the rows in front of the limit; a negative limit never stops the loop -/
theorem takeWhile_enumFrom {α : Type} (limit : Int) (k : Nat) (l : List α) (hk : limit < 0 ∨ (k : Int) ≤ limit) :
    (enumFrom k l).takeWhile (fun x => !(x.1 == limit))
      = enumFrom k (if limit < 0 then l else l.take (limit.toNat - k)) := by
  by_cases hneg : limit < 0
  · rw [if_pos hneg]
    induction l generalizing k with
    | nil => rfl
    | cons x xs ih =>
      rw [enumFrom, List.takeWhile_cons,
        beq_eq_false_iff_ne.2 (Int.ne_of_lt (Int.lt_of_lt_of_le hneg (Int.natCast_nonneg k))).symm, Bool.not_false, if_pos rfl,
        ih (k + 1) (Or.inl hneg)]
  · obtain ⟨n, rfl⟩ := Int.le.dest (hk.resolve_left hneg)
    rw [if_neg hneg, takeWhile_enumFrom_add, ← Int.natCast_add, Int.toNat_natCast, Nat.add_sub_cancel_left]

/-- the request the model's `writeResultOps` is about -/
def reqOf (ext : Ext) (query : GQuery) (o : GOutfile) (final : Bool) : OutReq :=
  ⟨o.FilePath, o.AppendMode, query.RawQuery, query.Select.map (·.FieldStorage), ext.rowValues, query.Limit, final⟩

theorem headerG_model (ext : Ext) (fs : FS) (hstat : StatAgrees ext fs) (query : GQuery) (o : GOutfile) (final : Bool) :
    headerG ext o = needHeader fs (reqOf ext query o final) := by
  unfold headerG needHeader reqOf
  cases o.AppendMode
  · rfl
  · have h := hstat o.FilePath
    cases hg : fsGet fs o.FilePath <;> rw [hg] at h
    · cases hx : (ext.osStat o.FilePath).2 with
      | none => exact absurd hx h
      | some e => rfl
    · rw [h]; simp

theorem line_model (fd : GoString) (n : Nat) (vals : List GoString) (hv : vals.length = n) :
    lineG fd ((n : Int) - 1) (goEnum vals) ++ [GoFOp.write fd [10]] = (csvLineWrites fd vals).map ofFOp := by
  rw [goEnum_eq]; exact lineG_model fd n vals 0 (by omega)

theorem rows_model (fd : GoString) (n : Nat) (limit : Int) (rows : List (List GoString)) (h : ∀ row ∈ rows, row.length = n) :
    ((rowsUpTo limit (rows.map fun v => ({ values := v } : GRow))).flatMap fun x =>
        lineG fd ((n : Int) - 1) (goEnum x.2.values) ++ [GoFOp.write fd [10]])
      = ((if limit < 0 then rows else rows.take limit.toNat).flatMap (csvLineWrites fd)).map ofFOp := by
  have hl : ∀ row ∈ (if limit < 0 then rows else rows.take limit.toNat), row.length = n := by
    intro row hr
    split at hr
    · exact h row hr
    · exact h row (List.mem_of_mem_take hr)
  rw [rowsUpTo, goEnum_eq, takeWhile_enumFrom limit 0 _ (by omega),
    enumFrom_flatMap fun r : GRow => lineG fd ((n : Int) - 1) (goEnum r.values) ++ [GoFOp.write fd [10]],
    Nat.sub_zero, ← List.map_take, ← apply_ite (List.map _), List.flatMap_map, List.map_flatMap, List.flatMap_def, List.flatMap_def,
    List.map_congr_left fun v hv => line_model fd n v (hl v hv)]

/-- `fullG` is the model's operation list (the failures `ext` decides play no part in it) -/
theorem full_is_model (ext : Ext) (fs : FS) (hstat : StatAgrees ext fs) (query : GQuery) (o : GOutfile)
    (ho : query.Outfile = some o) (final : Bool) (hrows : ∀ row ∈ ext.rowValues, row.length = query.Select.length) :
    fullG ext query o final = (writeResultOps fs (reqOf ext query o final)).map ofFOp := by
  have hheader := fun fd => line_model fd query.Select.length (query.Select.map (·.FieldStorage)) (List.length_map _)
  unfold fullG rwuOps writeResultOps
  dsimp only
  rw [headerG_model ext fs hstat query o final, goEnum_eq, enumFrom_map, ← goEnum_eq,
    len_list query.Select, hheader, rowsOf, rows_model _ _ _ _ hrows]
  cases ha : o.AppendMode <;> simp [reqOf, ha, limitedRows, ofFOp, List.map_append, apply_ite (List.map ofFOp)]

/-- **the history the translated `WriteResult` records is the model's `writeResultOps`**, when no file operation fails,
    `os.Stat` answers for the file system, and every row has one value per column (what `GroupSet.result` builds) -/
theorem WriteResult_refines (ext : Ext) (hio : NoIOErr ext) (fs : FS) (hstat : StatAgrees ext fs) (g : GroupSet) (query : GQuery)
    (o : GOutfile) (ho : query.Outfile = some o) (final : Bool)
    (hrows : ∀ row ∈ ext.rowValues, row.length = query.Select.length) :
    GroupSet.WriteResult ext g query final
      = Outcome.ok (⟨g.ops ++ (writeResultOps fs (reqOf ext query o final)).map ofFOp⟩, none) := by
  rw [WriteResult_ok ext hio g query o ho final, ← full_is_model ext fs hstat query o ho final hrows]; rfl

theorem filterMap_clean (l : List GoFOp) : (clean l).filterMap toFOp = l.filterMap toFOp := by
  unfold clean
  rw [List.filterMap_filter]
  congr 1
  funext x
  cases x <;> rfl

theorem filterMap_of (l : List FOp) : (l.map ofFOp).filterMap toFOp = l := by
  rw [List.filterMap_map]
  have : (toFOp ∘ ofFOp) = some := by funext x; exact toFOp_ofFOp x
  rw [this, List.filterMap_some]

end Dtail.GenOutfile
