/-
The permission rules of Model/Perm.lean: how a rule text is read, and `iterateRules` in closed form — every rule must
compile, and the last rule that matches decides.
-/
import DtailModel.Model.Perm
namespace Dtail

theorem ruleBody_prefix (x : Bytes) : ruleBody (b!"readfiles:" ++ x) = x := if_pos rfl

theorem ruleBody_bare (x : Bytes) (h : hasPrefix (b!"readfiles:") x = false) : ruleBody x = x :=
  if_neg (by rw [show (READFILES ++ [COLON] : Bytes) = b!"readfiles:" from rfl, h]; exact Bool.false_ne_true)

theorem parseRule_type (p : Bytes) : (parseRule p).type = READFILES := by
  unfold parseRule; split <;> rfl

theorem iterateRules_eq (m : MatchOracle) (ty path : Bytes) (rules : List Rule) (has : Bool)
    (ht : ∀ r ∈ rules, r.type = ty) :
    iterateRules m ty path rules has =
      (rules.all (fun r => (m r.regex path).isSome) &&
        ((rules.filter (fun r => m r.regex path = some true)).getLast?.map (fun r => !r.deny)).getD has) := by
  induction rules generalizing has with
  | nil => rfl
  | cons r rest ih =>
    have ih := fun has => ih has fun x hx => ht x (List.mem_cons_of_mem _ hx)
    rw [iterateRules, if_neg (not_not_intro (ht r List.mem_cons_self)), List.all_cons, List.filter_cons]
    cases hm : m r.regex path with
    | none => rfl
    | some b =>
      cases b
      · exact ih has
      · -- a match: `r` decides unless a later rule matches
        rw [if_pos (by decide), List.getLast?_cons]
        refine (ih (!r.deny)).trans ?_
        cases (rest.filter fun r => m r.regex path = some true).getLast? <;> rfl

theorem iterateRules_parsed (m : MatchOracle) (path : Bytes) (perms : List Bytes) :
    iterateRules m READFILES path (perms.map parseRule) false =
      ((perms.map parseRule).all (fun r => (m r.regex path).isSome) &&
        (((perms.map parseRule).filter (fun r => m r.regex path = some true)).getLast?.map (fun r => !r.deny) = some true)) := by
  rw [iterateRules_eq _ _ _ _ _ fun r hr => by obtain ⟨p, _, rfl⟩ := List.mem_map.1 hr; exact parseRule_type p]
  cases ((perms.map parseRule).filter fun r => m r.regex path = some true).getLast? <;> simp

end Dtail
