/-
Tie G for the grep-context automaton: `filterWithLContext`, `filterLineWithLContext`, `lContextNotMatched`,
`lContextProcessBefore`, `lContextProcessMaxCount` of internal/io/fs/readfilelcontext.go as translated from the working
tree on this run (`Generated/Code.lean`, namespace `Gen.Grep`).  In the translation the raw lines arriving on `rawLines` are
a list, what is sent on `lines` is kept in the receiver, `ls.beforeBuf` — a buffered channel only this goroutine touches — is
a bounded queue (`GoQueue`; an operation on it that would block for ever is a panic of the translation), the context is never
cancelled, and the statistics calls are outside the translation (the line numbers a line carries are not compared here).
The theorem says that the contents of the lines sent are the model's `grun`, the automaton the C03 theorems speak about.
-/
import DtailModel.Generated.Code
import DtailModel.Lemmas.GoRT
import DtailModel.Lemmas.Grep
namespace Dtail.GenGrep
open Dtail Dtail.Go Dtail.Gen.Grep

def contentOf : GoLine → Bytes
  | .null => []
  | .new c _ _ _ => c

def sent (f : readFile) : List Bytes := f.lines.map contentOf

theorem sent_append (f : readFile) (l : GoLine) : sent { f with lines := f.lines ++ [l] } = sent f ++ [contentOf l] := by
  simp [sent]

/-- `lContextProcessBefore`: the queue is drained, oldest first, into `lines` -/
theorem before_loop (ext : Ext) (x : GoString) :
    ∀ (items : List GoString) (fuel : Nat) (f : readFile) (i : Int) (ls : ltxState), ls.beforeBuf.items = items →
      items.length < fuel →
      ∃ f', goWhile fuel (f, i, ls, x) (fun _ => true)
          (fun (f, i, ls, rawLine) =>
            if (GoQueue.nonEmpty ls.beforeBuf) then
              let rawLine_1 := (GoQueue.head ls.beforeBuf)
              let ls := { ls with beforeBuf := (GoQueue.pop ls.beforeBuf) }
              let myLine := (GoLine.new rawLine_1 ((ext.lineCount ) - i) 100 f.globID)
              let i := (i - 1)
              let f := { f with lines := f.lines ++ [myLine] }
              if ((GoLen.len ls.beforeBuf) == 0) then
                LoopStep.brk (f, i, ls, rawLine)
              else
                LoopStep.next (f, i, ls, rawLine)
            else
              if ((GoLen.len ls.beforeBuf) == 0) then
                LoopStep.brk (f, i, ls, rawLine)
              else
                LoopStep.next (f, i, ls, rawLine))
          (fun (f, i, ls, rawLine) => (Outcome.ok (f, ls, nothing)))
          (Outcome.panic "out of fuel")
        = Outcome.ok (f', { ls with beforeBuf := { ls.beforeBuf with items := [] } }, nothing) ∧
        sent f' = sent f ++ items := by
  intro items fuel f i ls hq hf
  subst hq
  -- invariant: only the content of the queue has changed, and what was sent, followed by it, is what it was at the start
  refine goWhile_inv (s0 := (f, i, ls, x))
    (fun r => ∃ f' : readFile, r = Outcome.ok (f', { ls with beforeBuf := { ls.beforeBuf with items := [] } }, nothing) ∧
      sent f' = sent f ++ ls.beforeBuf.items)
    (fun s : readFile × Int × ltxState × GoString =>
      ∃ q, s.2.2.1 = { ls with beforeBuf := { ls.beforeBuf with items := q } } ∧ sent s.1 ++ q = sent f ++ ls.beforeBuf.items)
    (fun s => s.2.2.1.beforeBuf.items.length) ⟨_, rfl, rfl⟩ hf ?_ fun _ _ hc => ?_
  · rintro ⟨f1, i1, _, x1⟩ ⟨q, rfl, hI⟩ -
    -- the round evaluates on a queue of none, one or more lines: `break` at once, send and `break`, send and go on
    cases q with
    | nil => exact ⟨f1, rfl, by rw [← hI, List.append_nil]⟩
    | cons a rest =>
      cases rest with
      | nil => exact ⟨_, rfl, by rw [← hI]; exact sent_append f1 _⟩
      | cons b rest' => exact ⟨⟨b :: rest', rfl, by rw [← hI, sent_append, List.append_assoc]; rfl⟩, Nat.lt_succ_self _⟩
  · cases hc

theorem before_spec (ext : Ext) (f : readFile) (ls : ltxState) (x : GoString) (hf : ls.beforeBuf.items.length < ext.fuel) :
    ∃ f', readFile.lContextProcessBefore ext f () ls () x
        = Outcome.ok (f', { ls with beforeBuf := { ls.beforeBuf with items := [] } }, nothing) ∧
      sent f' = sent f ++ ls.beforeBuf.items := by
  unfold readFile.lContextProcessBefore
  exact before_loop ext x _ ext.fuel f _ ls rfl hf

/-- the translated state and the model's; `B`, `A`, `M` are the three context settings.  `pm`/`pb`/`pa`: the three `process…` flags
    say which settings are positive; `mr`/`af`/`mc`: `maxReached`, the `after` countdown and the max count agree; `cap`/`ring`/`rlen`:
    the before-buffer is a queue of capacity `B` holding the model's ring; `mpos`: with a max count there is budget left, or it
    is spent and trailing context is owed (the reachable part of `Budget` in `Lemmas/Grep.lean`) -/
structure Rel (ltx : GoLContext) (B A M : Nat) (ls : ltxState) (s : GState Bytes) : Prop where
  hA : ltx.AfterContext = (A : Int)
  pm : ls.processMaxCount = decide (M > 0)
  pb : ls.processBefore = decide (B > 0)
  pa : ls.processAfter = decide (A > 0)
  mr : ls.maxReached = s.maxReached
  af : ls.after = (s.after : Int)
  mc : ls.maxCount = (s.maxc : Int)
  cap : ls.beforeBuf.cap = (B : Int)
  ring : ls.beforeBuf.items = s.ring
  rlen : s.ring.length ≤ B
  mpos : M > 0 → (1 ≤ s.maxc ∨ (s.maxReached = true ∧ A > 0))

namespace Rel
variable {ltx : GoLContext} {B A M : Nat} {ls : ltxState} {s : GState Bytes}

/-! how the tests of the translated code read on the model's side -/

theorem pa_iff (hr : Rel ltx B A M ls s) : ls.processAfter = true ↔ A > 0 := by rw [hr.pa, decide_eq_true_eq]
theorem pb_iff (hr : Rel ltx B A M ls s) : ls.processBefore = true ↔ B > 0 := by rw [hr.pb, decide_eq_true_eq]
theorem pm_iff (hr : Rel ltx B A M ls s) : ls.processMaxCount = true ↔ M > 0 := by rw [hr.pm, decide_eq_true_eq]
theorem mr_iff (hr : Rel ltx B A M ls s) : ls.maxReached = true ↔ s.maxReached = true := by rw [hr.mr]

theorem owed_iff (hr : Rel ltx B A M ls s) :
    (ls.processAfter && decide (ls.after > 0)) = true ↔ A > 0 ∧ s.after > 0 := by
  rw [hr.pa, hr.af, Bool.and_eq_true, decide_eq_true_eq, decide_eq_true_eq, gt_iff_lt, gt_iff_lt, Int.natCast_pos]

theorem hasRoom_iff (hr : Rel ltx B A M ls s) : GoQueue.hasRoom ls.beforeBuf = true ↔ s.ring.length < B := by
  rw [GoQueue.hasRoom, hr.ring, hr.cap, decide_eq_true_eq, Int.ofNat_lt]

theorem withRing (hr : Rel ltx B A M ls s) {q : GoQueue} {g : List Bytes} (hc : q.cap = (B : Int)) (hi : q.items = g)
    (hg : g.length ≤ B) : Rel ltx B A M { ls with beforeBuf := q } { s with ring := g } :=
  { hr with cap := hc, ring := hi, rlen := hg }

end Rel

theorem notMatched_spec (ext : Ext) (ltx : GoLContext) (B A M : Nat) (ls : ltxState) (s : GState Bytes) (f : readFile)
    (x : GoString) (hr : Rel ltx B A M ls s) :
    ∃ f' ls', readFile.lContextNotMatched ext f () ls () x = Outcome.ok (f', ls', continueReading) ∧
      sent f' = sent f ++ (gstep B A M s false x).1 ∧
      ∃ s', (gstep B A M s false x).2 = some s' ∧ Rel ltx B A M ls' s' := by
  unfold readFile.lContextNotMatched
  rw [gstep_unsel]
  by_cases hA : A > 0 ∧ s.after > 0
  · rw [if_pos (hr.owed_iff.2 hA), if_pos hA]
    refine ⟨_, _, rfl, sent_append f _, _, rfl, ?_⟩
    exact { hr with af := by show ls.after - 1 = ((s.after - 1 : Nat) : Int); rw [hr.af]; exact (Int.ofNat_sub hA.2).symm }
  · rw [if_neg (mt hr.owed_iff.1 hA), if_neg hA]
    by_cases hB : B > 0
    · rw [if_pos (hr.pb_iff.2 hB), if_pos hB]
      have hlen : (pushRing B s.ring x).length ≤ B := by
        rw [pushRing_eq_lastN x hB hr.rlen]; exact lastN_length_le _ _
      -- the `select`: send, or with a full queue receive once and send; the queue then holds `pushRing`
      by_cases hroom : s.ring.length < B
      · rw [if_pos (hr.hasRoom_iff.2 hroom)]
        refine ⟨_, _, rfl, (List.append_nil _).symm, _, rfl, hr.withRing hr.cap ?_ hlen⟩
        simp [GoQueue.push, hr.ring, pushRing, hroom]
      · obtain ⟨a, r, hs⟩ := List.exists_cons_of_length_pos (l := s.ring) (by omega)
        have h3 : GoQueue.nonEmpty ls.beforeBuf = true := by simp [GoQueue.nonEmpty, hr.ring, hs]
        have h4 : GoQueue.hasRoom (GoQueue.pop ls.beforeBuf) = true := by
          have hlt : r.length < B := by have := hr.rlen; rwa [hs] at this
          rw [GoQueue.hasRoom, GoQueue.pop, hr.ring, hr.cap, hs, decide_eq_true_eq, Int.ofNat_lt]
          exact hlt
        rw [if_neg (mt hr.hasRoom_iff.1 hroom), if_pos h3]
        rw [if_pos h4]
        refine ⟨_, _, rfl, (List.append_nil _).symm, _, rfl, hr.withRing hr.cap ?_ hlen⟩
        simp [GoQueue.push, GoQueue.pop, hr.ring, pushRing, hroom]
    · rw [if_neg (mt hr.pb_iff.1 hB), if_neg hB]
      exact ⟨_, _, rfl, (List.append_nil _).symm, _, rfl, hr⟩

/-- the model's step on a selected line after the `after` counter was reset: the drained ring, the line, the `max` count -/
def gtailM (B A M : Nat) (s : GState Bytes) (x : Bytes) : List Bytes × Option (GState Bytes) :=
  let pre := if B > 0 then s.ring else []
  let ring' := if B > 0 then [] else s.ring
  let emitted := pre ++ [x]
  if M > 0 then
    let maxc' := s.maxc - 1
    if maxc' = 0 then (if A = 0 ∨ s.after = 0 then (emitted, none) else (emitted, some ⟨maxc', true, ring', s.after⟩))
    else (emitted, some ⟨maxc', s.maxReached, ring', s.after⟩)
  else (emitted, some ⟨s.maxc, s.maxReached, ring', s.after⟩)

theorem gstep_sel (B A M : Nat) (s : GState Bytes) (x : Bytes) :
    gstep B A M s true x = if A > 0 ∧ s.maxReached = true then ([], none)
      else gtailM B A M { s with after := if A > 0 then A else s.after } x := by
  unfold gstep gtailM
  simp only [Bool.not_true, Bool.false_eq_true, if_false]

/-- the part of the translated `filterLineWithLContext` that follows the reset of the `after` counter, as the translator
    emitted it (it stands in the generated function once per path that reaches it) -/
def tailG (ext : Ext) (f : readFile) (ctx : Unit) (ls : ltxState) (lines : Unit) (rawLine : GoString) :
    Outcome (readFile × ltxState × readStatus) :=
  if ls.processBefore then
    match readFile.lContextProcessBefore ext f ctx ls lines rawLine with
    | Outcome.ok _o35 =>
      let (_r36, _p38, _t37) := _o35
      let f := _r36
      let ls := _p38
      let status := _t37
      if (status == nothing) then
        let line := (GoLine.new rawLine (ext.lineCount ) 100 f.globID)
        let f := { f with lines := f.lines ++ [line] }
        if ls.processMaxCount then
          let (_r39, _p41, _t40) := readFile.lContextProcessMaxCount ext f ctx ls
          let f := _r39
          let ls := _p41
          let status := _t40
          if (status == nothing) then
            (Outcome.ok (f, ls, nothing))
          else
            (Outcome.ok (f, ls, status))
        else
          (Outcome.ok (f, ls, nothing))
      else
        (Outcome.ok (f, ls, status))
    | _ =>
      (Outcome.panic "panic in readFile.lContextProcessBefore")
  else
    let line := (GoLine.new rawLine (ext.lineCount ) 100 f.globID)
    let f := { f with lines := f.lines ++ [line] }
    if ls.processMaxCount then
      let (_r42, _p44, _t43) := readFile.lContextProcessMaxCount ext f ctx ls
      let f := _r42
      let ls := _p44
      let status := _t43
      if (status == nothing) then
        (Outcome.ok (f, ls, nothing))
      else
        (Outcome.ok (f, ls, status))
    else
      (Outcome.ok (f, ls, nothing))

/-- what a step must deliver: the lines of the model's step, and its verdict -/
def StepGood (ltx : GoLContext) (B A M : Nat) (f : readFile) (r : List Bytes × Option (GState Bytes))
    (o : Outcome (readFile × ltxState × readStatus)) : Prop :=
  ∃ f' ls' st, o = Outcome.ok (f', ls', st) ∧ sent f' = sent f ++ r.1 ∧
    match r.2 with
    | none => st = abortReading
    | some s' => st ≠ abortReading ∧ Rel ltx B A M ls' s'

theorem maxCount_spec (ext : Ext) (ltx : GoLContext) (B A M : Nat) (ls : ltxState) (s : GState Bytes) (f f0 : readFile)
    (e : List Bytes) (hr : Rel ltx B A M ls s) (hM : M > 0) (hmc : 1 ≤ s.maxc) (hs : sent f = sent f0 ++ e) :
    StepGood ltx B A M f0
      (if s.maxc - 1 = 0 then (if A = 0 ∨ s.after = 0 then (e, none) else (e, some ⟨s.maxc - 1, true, s.ring, s.after⟩))
        else (e, some ⟨s.maxc - 1, s.maxReached, s.ring, s.after⟩))
      (let (_r39, _p41, _t40) := readFile.lContextProcessMaxCount ext f () ls
        let f := _r39
        let ls := _p41
        let status := _t40
        if (status == nothing) then
          (Outcome.ok (f, ls, nothing))
        else
          (Outcome.ok (f, ls, status))) := by
  unfold readFile.lContextProcessMaxCount
  have hmc' : ls.maxCount - 1 = ((s.maxc - 1 : Nat) : Int) := by rw [hr.mc]; exact (Int.ofNat_sub hmc).symm
  have hz : ((ls.maxCount - 1) == 0) = true ↔ s.maxc - 1 = 0 := by rw [hmc', beq_iff_eq, Int.natCast_eq_zero]
  have hc : ((!ls.processAfter) || (ls.after == 0)) = true ↔ A = 0 ∨ s.after = 0 := by
    rw [hr.pa, hr.af, Bool.or_eq_true, Bool.not_eq_true', decide_eq_false_iff_not, beq_iff_eq, Int.natCast_eq_zero,
      Nat.not_lt, Nat.le_zero]
  by_cases h0 : s.maxc - 1 = 0
  · rw [if_pos h0, if_pos (hz.2 h0)]
    by_cases h1 : A = 0 ∨ s.after = 0
    · rw [if_pos (hc.2 h1), if_pos h1]
      exact ⟨_, _, _, rfl, hs, rfl⟩
    · rw [if_neg (mt hc.1 h1), if_neg h1]
      exact ⟨_, _, _, rfl, hs, by decide,
        { hr with mr := rfl, mc := hmc', mpos := fun _ => Or.inr ⟨rfl, Nat.pos_of_ne_zero fun h => h1 (Or.inl h)⟩ }⟩
  · rw [if_neg h0, if_neg (mt hz.1 h0)]
    exact ⟨_, _, _, rfl, hs, by decide,
      { hr with mc := hmc', mpos := fun _ => Or.inl (Nat.pos_of_ne_zero h0) }⟩

/-- once the line is sent: the `max` count, if there is one -/
theorem afterSend (ext : Ext) (ltx : GoLContext) (B A M : Nat) (ls : ltxState) (s : GState Bytes) (f f0 : readFile)
    (e : List Bytes) (hr : Rel ltx B A M ls s) (hmc : M > 0 → 1 ≤ s.maxc) (hs : sent f = sent f0 ++ e) :
    StepGood ltx B A M f0
      (if M > 0 then
        if s.maxc - 1 = 0 then (if A = 0 ∨ s.after = 0 then (e, none) else (e, some ⟨s.maxc - 1, true, s.ring, s.after⟩))
        else (e, some ⟨s.maxc - 1, s.maxReached, s.ring, s.after⟩)
      else (e, some s))
      (if ls.processMaxCount then
        let (_r39, _p41, _t40) := readFile.lContextProcessMaxCount ext f () ls
        let f := _r39
        let ls := _p41
        let status := _t40
        if (status == nothing) then
          (Outcome.ok (f, ls, nothing))
        else
          (Outcome.ok (f, ls, status))
      else
        (Outcome.ok (f, ls, nothing))) := by
  by_cases hM : M > 0
  · rw [if_pos (hr.pm_iff.2 hM), if_pos hM]
    exact maxCount_spec ext ltx B A M ls s f f0 e hr hM (hmc hM) hs
  · rw [if_neg (mt hr.pm_iff.1 hM), if_neg hM]
    exact ⟨_, _, _, rfl, hs, by decide, hr⟩

theorem tail_spec (ext : Ext) (ltx : GoLContext) (B A M : Nat) (ls : ltxState) (s : GState Bytes) (f : readFile)
    (x : GoString) (hr : Rel ltx B A M ls s) (hnm : ¬ (A > 0 ∧ s.maxReached = true)) (hfuel : B < ext.fuel) :
    StepGood ltx B A M f (gtailM B A M s x) (tailG ext f () ls () x) := by
  have hmc : M > 0 → 1 ≤ s.maxc := fun hM => (hr.mpos hM).resolve_right fun h => hnm ⟨h.2, h.1⟩
  unfold tailG gtailM
  by_cases hB : B > 0
  · -- the ring is drained, then the line goes out
    obtain ⟨f1, hbe, hs1⟩ := before_spec ext f ls x (by rw [hr.ring]; exact Nat.lt_of_le_of_lt hr.rlen hfuel)
    rw [if_pos (hr.pb_iff.2 hB), hbe]
    simp only [show (nothing == nothing) = true by decide, if_true, hB]
    refine afterSend ext ltx B A M { ls with beforeBuf := { ls.beforeBuf with items := [] } } { s with ring := [] } _ f
      (s.ring ++ [x]) (hr.withRing hr.cap rfl (Nat.zero_le _)) hmc ?_
    rw [sent_append, hs1, hr.ring, List.append_assoc]; rfl
  · rw [if_neg (mt hr.pb_iff.1 hB)]
    simp only [hB, if_false, List.nil_append]
    exact afterSend ext ltx B A M ls s _ f [x] hr hmc (sent_append f _)

/-- **one raw line through the translated `filterLineWithLContext` is the model's `gstep`** -/
theorem step_refines (ext : Ext) (ltx : GoLContext) (B A M : Nat) (ls : ltxState) (s : GState Bytes) (f : readFile)
    (raws : List GoString) (re : GoRegex) (x : GoString) (hr : Rel ltx B A M ls s) (hfuel : B < ext.fuel) :
    StepGood ltx B A M f (gstep B A M s (ext.reMatch re x) x)
      (readFile.filterLineWithLContext ext f () ltx ls raws () re x) := by
  unfold readFile.filterLineWithLContext
  cases hsel : ext.reMatch re x
  · -- not selected: `lContextNotMatched` answers `continueReading`, which ends the function
    obtain ⟨f1, ls1, he, hs, s1, hg, hr1⟩ := notMatched_spec ext ltx B A M ls s f x hr
    rw [if_pos (by rfl : (!false) = true), he]
    exact ⟨f1, ls1, continueReading, rfl, hs, by rw [hg]; exact ⟨by decide, hr1⟩⟩
  · rw [if_neg (by decide : ¬ (!true) = true), gstep_sel]
    by_cases hA : A > 0
    · rw [if_pos (hr.pa_iff.2 hA)]
      by_cases hmr : s.maxReached = true
      · rw [if_pos (hr.mr_iff.2 hmr), if_pos ⟨hA, hmr⟩]
        exact ⟨_, _, _, rfl, (List.append_nil _).symm, rfl⟩
      · rw [if_neg (mt hr.mr_iff.1 hmr), if_neg fun h => hmr h.2, if_pos hA]
        exact tail_spec ext ltx B A M _ _ f x { hr with af := hr.hA } (fun h => hmr h.2) hfuel
    · rw [if_neg (mt hr.pa_iff.1 hA), if_neg fun h => hA h.1, if_neg hA]
      exact tail_spec ext ltx B A M ls s f x hr (fun h => hA h.1) hfuel

/-- the raw lines with the expression's verdict, as the model takes them -/
def judged (ext : Ext) (re : GoRegex) (raws : List GoString) : List (Bool × Bytes) := raws.map fun x => (ext.reMatch re x, x)

/-- **the loop of the translated `filterWithLContext` is the model's `grun`** -/
theorem filter_loop (ext : Ext) (ltx : GoLContext) (B A M : Nat) (re : GoRegex) (all : List GoString) (hfuel : B < ext.fuel) :
    ∀ (raws : List GoString) (f : readFile) (ls : ltxState) (s : GState Bytes), Rel ltx B A M ls s →
      ∃ f', goRange raws (f, ls)
          (fun (f, ls) rawLine =>
            match readFile.filterLineWithLContext ext f () ltx ls all () re rawLine with
            | Outcome.ok _o1 =>
              let (_r2, _p4, _t3) := _o1
              let f := _r2
              let ls := _p4
              let status := _t3
              if (status == abortReading) then
                LoopStep.ret (Outcome.ok f)
              else
                LoopStep.next (f, ls)
            | _ =>
              LoopStep.ret (Outcome.panic "panic in readFile.filterLineWithLContext"))
          (fun (f, ls) => (Outcome.ok f)) = Outcome.ok f' ∧
        sent f' = sent f ++ grun B A M s (judged ext re raws) := by
  intro raws
  induction raws with
  | nil => intro f ls s _; exact ⟨f, rfl, (List.append_nil _).symm⟩
  | cons x rest ih =>
    intro f ls s hr
    obtain ⟨f1, ls1, st, he, hs, hv⟩ := step_refines ext ltx B A M ls s f all re x hr hfuel
    rw [goRange_cons]
    simp only [he, judged, List.map_cons, grun_cons]
    generalize gstep B A M s (ext.reMatch re x) x = r at hs hv ⊢
    obtain ⟨e, _ | s'⟩ := r
    · -- the model's step ends the run: reading is aborted
      rw [if_pos (by rw [hv]; rfl)]
      exact ⟨f1, rfl, hs⟩
    · obtain ⟨hne, hr1⟩ := hv
      rw [if_neg (by simpa using hne)]
      obtain ⟨f', hgo, hs'⟩ := ih f1 ls1 s' hr1
      exact ⟨f', hgo, by rw [hs', hs, List.append_assoc]; rfl⟩

/-- **the translated `filterWithLContext` sends the model's lines**: for every list of raw lines, every expression and every
    setting of the three contexts, the contents of the lines sent are `grun B A M (ginit M)` on the lines with the
    expression's verdicts; the function returns normally (no panic: no index out of range, no queue operation that would
    block for ever, fuel for the `before` ring) -/
theorem filter_refines (ext : Ext) (ltx : GoLContext) (B A M : Nat) (hB : ltx.BeforeContext = (B : Int))
    (hA : ltx.AfterContext = (A : Int)) (hM : ltx.MaxCount = (M : Int)) (hfuel : B < ext.fuel)
    (hlim : (B : Int) ≤ 35184372088820) (f : readFile) (raws : List GoString) (re : GoRegex) :
    ∃ f', readFile.filterWithLContext ext f () ltx raws () re = Outcome.ok f' ∧
      sent f' = sent f ++ grun B A M (ginit M) (judged ext re raws) := by
  unfold readFile.filterWithLContext
  dsimp only
  have hpos {z : Int} {n : Nat} (h : z = n) : decide (z > 0) = decide (n > 0) := by
    rw [h]; exact decide_eq_decide.2 Int.natCast_pos
  -- the state the function builds, around whatever queue
  have hinit (q : GoQueue) (hc : q.cap = (B : Int)) (hi : q.items = []) : Rel ltx B A M
      { maxCount := ltx.MaxCount, processMaxCount := decide (ltx.MaxCount > 0), maxReached := false,
        before := ltx.BeforeContext, processBefore := decide (ltx.BeforeContext > 0), beforeBuf := q, after := 0,
        processAfter := decide (ltx.AfterContext > 0) } (ginit M) :=
    { hA := hA, pm := hpos hM, pb := hpos hB, pa := hpos hA, mr := rfl, af := rfl, mc := hM, cap := hc, ring := hi
      rlen := Nat.zero_le _, mpos := fun h => Or.inl h }
  have hpb : decide (ltx.BeforeContext > 0) = true ↔ B > 0 := by rw [hpos hB, decide_eq_true_eq]
  have hmake : goMakeChanOk ltx.BeforeContext = true := by
    rw [hB, goMakeChanOk, decide_eq_true_eq]; exact ⟨Int.natCast_nonneg B, hlim⟩
  by_cases hb : B > 0
  · rw [if_pos (hpb.2 hb), if_pos hmake]
    exact filter_loop ext ltx B A M re raws hfuel raws f _ (ginit M) (hinit ⟨ltx.BeforeContext, []⟩ hB rfl)
  · rw [if_neg (mt hpb.1 hb)]
    exact filter_loop ext ltx B A M re raws hfuel raws f _ (ginit M) (hinit {} (by rw [Nat.eq_zero_of_not_pos hb]; rfl) rfl)

end Dtail.GenGrep
