/-
C05, the pipeline as a whole: `distributed` = `central` as group maps.  A group list is read as a finite map (`lookup`, no
key twice); `serverPartial` and `mergeGroups` are both folds of keyed updates (`lookup_foldl_updGroup`).  An aggregate set
has one column per select condition, the fold of the contributions to it (`aggFold_canon`); a set without data is the empty
set, which is why leaving it out of a message (`transmitted`) loses nothing.
-/
import DtailModel.Model.Aggregate
import DtailModel.Lemmas.AggAlgebra
namespace Dtail.AggPipe

def lookup (g : Groups) (k : Bytes) : Option AggSet := (g.find? (·.1 = k)).map (·.2)

def keys (g : Groups) : List Bytes := g.map (·.1)

@[simp] theorem lookup_nil (k : Bytes) : lookup [] k = none := rfl

@[simp] theorem lookup_cons (e : Bytes × AggSet) (g : Groups) (k : Bytes) :
    lookup (e :: g) k = if e.1 = k then some e.2 else lookup g k := by
  by_cases h : e.1 = k <;> simp [lookup, h]

@[simp] theorem keys_cons (e : Bytes × AggSet) (g : Groups) : keys (e :: g) = e.1 :: keys g := rfl

theorem lookup_updGroup (g : Groups) (k k' : Bytes) (f : AggSet → AggSet) (d : AggSet) :
    lookup (updGroup g k f d) k' = if k = k' then some (f ((lookup g k).getD d)) else lookup g k' := by
  induction g with
  | nil => simp [updGroup]
  | cons e rest ih =>
    unfold updGroup
    by_cases hke : e.1 = k <;> by_cases h : k = k' <;> simp_all

theorem keys_updGroup (g : Groups) (k : Bytes) (f : AggSet → AggSet) (d : AggSet) :
    keys (updGroup g k f d) = if k ∈ keys g then keys g else keys g ++ [k] := by
  induction g with
  | nil => simp [updGroup, keys]
  | cons e rest ih =>
    unfold updGroup
    by_cases hke : e.1 = k
    · simp [hke]
    · simp only [hke, if_false, keys_cons, ih, List.mem_cons, Ne.symm hke, false_or]
      split <;> rfl

theorem nodup_updGroup (g : Groups) (k : Bytes) (f : AggSet → AggSet) (d : AggSet) (h : (keys g).Nodup) :
    (keys (updGroup g k f d)).Nodup := by
  rw [keys_updGroup]
  split
  · exact h
  · rename_i hk
    exact List.nodup_append.2 ⟨h, by simp, by simpa using fun a ha (e : a = k) => hk (e ▸ ha)⟩

theorem lookup_foldl_updGroup {β : Type} (key : β → Bytes) (f : AggSet → β → AggSet) (d : AggSet) (xs : List β)
    (g : Groups) (k : Bytes) :
    lookup (xs.foldl (fun g x => updGroup g (key x) (f · x) d) g) k =
      match xs.filter (key · = k) with
      | [] => lookup g k
      | ys => some (ys.foldl f ((lookup g k).getD d)) := by
  induction xs generalizing g with
  | nil => rfl
  | cons x xs ih =>
    rw [List.foldl_cons, ih, lookup_updGroup, List.filter_cons]
    by_cases h : key x = k <;> simp only [h, decide_true, decide_false, if_true, if_false, Bool.false_eq_true]
    cases xs.filter (key · = k) <;> rfl

theorem nodup_foldl_updGroup {β : Type} (key : β → Bytes) (f : AggSet → β → AggSet) (d : AggSet) (xs : List β)
    (g : Groups) (h : (keys g).Nodup) : (keys (xs.foldl (fun g x => updGroup g (key x) (f · x) d) g)).Nodup := by
  induction xs generalizing g with
  | nil => exact h
  | cons x xs ih => exact ih _ (nodup_updGroup _ _ _ _ h)

theorem filter_key (g : Groups) (h : (keys g).Nodup) (k : Bytes) :
    g.filter (·.1 = k) = (lookup g k).toList.map (k, ·) := by
  induction g with
  | nil => rfl
  | cons e rest ih =>
    rw [keys_cons, List.nodup_cons] at h
    by_cases hk : e.1 = k
    · subst hk
      have : rest.filter (·.1 = e.1) = [] :=
        List.filter_eq_nil_iff.2 fun x hx hxe => h.1 (by simp at hxe; exact hxe ▸ List.mem_map_of_mem hx)
      simp [this]
    · simp [hk, ih h.2]

theorem mem_iff_lookup (g : Groups) (h : (keys g).Nodup) (k : Bytes) (s : AggSet) :
    (k, s) ∈ g ↔ lookup g k = some s := by
  have : (k, s) ∈ g ↔ (k, s) ∈ g.filter (·.1 = k) := by simp
  rw [this, filter_key g h]
  cases lookup g k <;> simp [eq_comm]

theorem nodup_filter (g : Groups) (p : Bytes × AggSet → Bool) (h : (keys g).Nodup) : (keys (g.filter p)).Nodup :=
  (List.filter_sublist.map _).nodup h

theorem lookup_filter (g : Groups) (p : AggSet → Bool) (k : Bytes) (h : (keys g).Nodup) :
    lookup (g.filter fun e => p e.2) k = (lookup g k).filter p := by
  apply Option.ext
  intro s
  rw [← mem_iff_lookup _ (nodup_filter g _ h), List.mem_filter, mem_iff_lookup g h, Option.filter_eq_some_iff]

def linesOf (gb : List Bytes) (k : Bytes) (lines : List Fields) : List Fields :=
  lines.filter fun fs => groupKeyOf gb fs = k

theorem linesOf_append (gb : List Bytes) (k : Bytes) (a b : List Fields) :
    linesOf gb k (a ++ b) = linesOf gb k a ++ linesOf gb k b :=
  List.filter_append ..

def aggFold (sel : List SelCond) (ls : List Fields) : AggSet := ls.foldl (aggLine sel) (emptySet sel.length)

theorem lookup_serverPartial (sel : List SelCond) (gb : List Bytes) (k : Bytes) (lines : List Fields) :
    lookup (serverPartial sel gb lines) k =
      match linesOf gb k lines with
      | [] => none
      | ls => some (aggFold sel ls) := by
  rw [serverPartial, lookup_foldl_updGroup (groupKeyOf gb) (aggLine sel), linesOf]
  cases lines.filter _ <;> rfl

theorem nodup_serverPartial (sel : List SelCond) (gb : List Bytes) (lines : List Fields) :
    (keys (serverPartial sel gb lines)).Nodup :=
  nodup_foldl_updGroup (groupKeyOf gb) (aggLine sel) _ lines [] .nil

theorem mergeGroups_eq (sel : List SelCond) (a b : Groups) :
    mergeGroups sel a b = b.foldl (fun g e => updGroup g e.1 (mergeSet sel · e.2) (emptySet sel.length)) a := rfl

theorem lookup_mergeGroups (sel : List SelCond) (a b : Groups) (k : Bytes) (hb : (keys b).Nodup) :
    lookup (mergeGroups sel a b) k =
      match lookup b k with
      | none => lookup a k
      | some s => some (mergeSet sel ((lookup a k).getD (emptySet sel.length)) s) := by
  rw [mergeGroups_eq, lookup_foldl_updGroup (β := Bytes × AggSet) (·.1) (mergeSet sel · ·.2), filter_key b hb]
  cases lookup b k <;> rfl

theorem nodup_mergeGroups (sel : List SelCond) (a b : Groups) (ha : (keys a).Nodup) :
    (keys (mergeGroups sel a b)).Nodup :=
  nodup_foldl_updGroup (β := Bytes × AggSet) (·.1) (mergeSet sel · ·.2) _ b a ha

theorem zip3_map {α β γ : Type} (sel : List SelCond) (f : SelCond → α) (g : SelCond → β) (F : α × SelCond × β → γ) :
    ((sel.map f).zip (sel.zip (sel.map g))).map F = sel.map (fun sc => F (f sc, sc, g sc)) := by
  induction sel with
  | nil => rfl
  | cons sc rest ih => simp [ih]

def contrib (fs : Fields) (sc : SelCond) : Option Col := contribution sc.op fs sc.field

def contributes (sel : List SelCond) (fs : Fields) : Bool := sel.any fun sc => (contrib fs sc).isSome

theorem aggLine_canon (sel : List SelCond) (n : Nat) (f : SelCond → Col) (fs : Fields) :
    aggLine sel ⟨n, sel.map f⟩ fs =
      ⟨n + (if contributes sel fs then 1 else 0),
       sel.map fun sc => match contrib fs sc with | none => f sc | some k => combine sc.op (f sc) k⟩ := by
  unfold aggLine
  simp only [zip3_map]
  congr 1
  simp [contributes, contrib, List.any_map, Function.comp_def]

theorem emptySet_canon (sel : List SelCond) : emptySet sel.length = ⟨0, sel.map fun _ => ({} : Col)⟩ := by
  simp [emptySet, List.map_const']

theorem foldl_aggLine_canon (sel : List SelCond) (ls : List Fields) (n : Nat) (f : SelCond → Col) :
    ls.foldl (aggLine sel) ⟨n, sel.map f⟩ =
      ⟨n + (ls.filter (contributes sel)).length,
       sel.map fun sc => (ls.filterMap fun fs => contrib fs sc).foldl (combine sc.op) (f sc)⟩ := by
  induction ls generalizing n f with
  | nil => simp
  | cons fs rest ih =>
    simp only [List.foldl_cons, aggLine_canon, ih]
    congr 1
    · by_cases hc : contributes sel fs = true
      · simp [hc]; omega
      · simp [hc]
    · apply List.map_congr_left
      intro sc _
      cases hk : contrib fs sc <;> simp [hk]

theorem aggFold_canon (sel : List SelCond) (ls : List Fields) :
    aggFold sel ls =
      ⟨(ls.filter (contributes sel)).length,
       sel.map fun sc => C05.colFold sc.op (ls.filterMap fun fs => contrib fs sc)⟩ := by
  unfold aggFold
  rw [emptySet_canon, foldl_aggLine_canon]
  simp [C05.colFold]

theorem mergeSet_canon (sel : List SelCond) (n m : Nat) (f g : SelCond → Col) :
    mergeSet sel ⟨n, sel.map f⟩ ⟨m, sel.map g⟩ = ⟨n + m, sel.map fun sc => combine sc.op (f sc) (g sc)⟩ := by
  unfold mergeSet
  simp only [zip3_map]

theorem aggFold_append (sel : List SelCond) (l1 l2 : List Fields) :
    aggFold sel (l1 ++ l2) = mergeSet sel (aggFold sel l1) (aggFold sel l2) := by
  simp only [aggFold_canon, mergeSet_canon, List.filter_append, List.length_append, List.filterMap_append,
    C05.colFold_append]

theorem mergeSet_empty_right (sel : List SelCond) (ls : List Fields) :
    mergeSet sel (aggFold sel ls) (emptySet sel.length) = aggFold sel ls := by
  simp only [aggFold_canon, emptySet_canon, mergeSet_canon, (C05.colFold_empty _ _).2, Nat.add_zero]

def hasData (s : AggSet) : Bool := s.cols.any (fun c => c.num.isSome ∨ c.str.isSome)

theorem transmitted_eq (g : Groups) : transmitted g = g.filter fun e => hasData e.2 := rfl

theorem hasData_emptySet (n : Nat) : hasData (emptySet n) = false := by simp [hasData, emptySet]

def dataCol (c : Col) : Bool := c.num.isSome ∨ c.str.isSome

theorem noData_eq_empty (c : Col) (h : dataCol c = false) : c = {} := by
  obtain ⟨n, s⟩ := c
  cases n <;> cases s <;> simp_all [dataCol]

theorem dataCol_combine_contribution (op : AggOp) (fs : Fields) (field : Bytes) (k : Col)
    (h : contribution op fs field = some k) (a : Col) : dataCol (combine op a k) = true := by
  unfold contribution at h
  generalize getField fs field = o at h
  cases o with
  | none => cases h
  | some v =>
    cases op <;> dsimp only at h
    case undef => cases h
    case count | last | len => cases h; simp [combine, dataCol, C05.addNum_eq, Option.isSome_merge]
    all_goals
      obtain ⟨n, -, rfl⟩ := Option.map_eq_some_iff.1 h
      simp [combine, dataCol, C05.addNum_eq, C05.minNum_eq, C05.maxNum_eq, Option.isSome_merge]

theorem dataCol_colFold (ls : List Fields) (sc : SelCond) :
    dataCol (C05.colFold sc.op (ls.filterMap fun fs => contrib fs sc)) = true ↔ ∃ fs ∈ ls, (contrib fs sc).isSome := by
  rcases List.eq_nil_or_concat (ls.filterMap fun fs => contrib fs sc) with hks | ⟨ks, k, hks⟩ <;> rw [hks]
  · have hno := List.filterMap_eq_nil_iff.1 hks
    exact ⟨fun h => by simp [C05.colFold, dataCol] at h, fun ⟨fs, hfs, h⟩ => by simp [hno fs hfs] at h⟩
  · -- the last contribution decides
    rw [List.concat_eq_append] at hks ⊢
    obtain ⟨fs, hfs, hk⟩ := List.mem_filterMap.1 (hks ▸ List.mem_concat_self : k ∈ ls.filterMap fun fs => contrib fs sc)
    rw [C05.colFold, List.foldl_append]
    exact ⟨fun _ => ⟨fs, hfs, by simp [hk]⟩, fun _ => dataCol_combine_contribution _ fs _ _ hk _⟩

theorem hasData_eq_any (s : AggSet) : hasData s = s.cols.any dataCol := rfl

theorem hasData_aggFold (sel : List SelCond) (ls : List Fields) :
    hasData (aggFold sel ls) = true ↔ ∃ fs ∈ ls, contributes sel fs = true := by
  simp only [aggFold_canon, hasData_eq_any, List.any_map, List.any_eq_true, Function.comp_def, contributes]
  -- a column has data iff some line contributes to it (`dataCol_colFold`); the rest swaps the two quantifiers
  constructor
  · rintro ⟨sc, hsc, h⟩
    obtain ⟨fs, hfs, hk⟩ := (dataCol_colFold ls sc).1 h
    exact ⟨fs, hfs, sc, hsc, hk⟩
  · rintro ⟨fs, hfs, sc, hsc, hk⟩
    exact ⟨sc, hsc, (dataCol_colFold ls sc).2 ⟨fs, hfs, hk⟩⟩

theorem aggFold_noData (sel : List SelCond) (ls : List Fields) (h : hasData (aggFold sel ls) = false) :
    aggFold sel ls = emptySet sel.length := by
  have hno : ∀ fs ∈ ls, contributes sel fs = false := fun fs hfs =>
    Bool.eq_false_iff.2 fun hc => by simp [(hasData_aggFold sel ls).2 ⟨fs, hfs, hc⟩] at h
  have hcols : ∀ sc ∈ sel, (ls.filterMap fun fs => contrib fs sc) = [] := fun sc hsc =>
    List.filterMap_eq_nil_iff.2 fun fs hfs => by
      simpa using List.any_eq_false.1 (hno fs hfs) sc hsc
  rw [aggFold_canon, emptySet_canon, List.filter_eq_nil_iff.2 fun fs hfs => by simp [hno fs hfs]]
  congr 1
  exact List.map_congr_left fun sc hsc => by rw [hcols sc hsc]; rfl

/-- what the final result holds for a group after the lines `ls` (of all groups) were seen: the
    aggregate set of the group's lines, if it carries data -/
def dataSet (sel : List SelCond) (gb : List Bytes) (k : Bytes) (ls : List Fields) : Option AggSet :=
  let s := aggFold sel (linesOf gb k ls)
  if hasData s then some s else none

theorem lookup_partial (sel : List SelCond) (gb : List Bytes) (k : Bytes) (p : List Fields) :
    lookup (transmitted (serverPartial sel gb p)) k = dataSet sel gb k p := by
  rw [transmitted_eq, lookup_filter _ _ _ (nodup_serverPartial sel gb p), lookup_serverPartial, dataSet]
  cases linesOf gb k p with
  | nil => simp [aggFold, hasData_emptySet]
  | cons => rfl

theorem nodup_partial (sel : List SelCond) (gb : List Bytes) (p : List Fields) :
    (keys (transmitted (serverPartial sel gb p))).Nodup :=
  nodup_filter _ _ (nodup_serverPartial sel gb p)

theorem central_lookup (sel : List SelCond) (gb : List Bytes) (k : Bytes) (ls : List Fields) :
    lookup (central sel gb ls) k = dataSet sel gb k ls :=
  lookup_partial sel gb k ls

/-- the `getD`: in the group lists an absent group stands for the empty set -/
theorem dataSet_append (sel : List SelCond) (gb : List Bytes) (k : Bytes) (seen p : List Fields) :
    dataSet sel gb k (seen ++ p) =
      match dataSet sel gb k p with
      | none => dataSet sel gb k seen
      | some s => some (mergeSet sel ((dataSet sel gb k seen).getD (emptySet sel.length)) s) := by
  simp only [dataSet, linesOf_append, aggFold_append]
  generalize linesOf gb k seen = l0
  generalize linesOf gb k p = lp
  by_cases hp : hasData (aggFold sel lp) = true
  · -- the new lines carry data: so does the merged set, and an absent old set was the empty set
    obtain ⟨fs, hfs, hc⟩ := (hasData_aggFold sel lp).1 hp
    have hd := (hasData_aggFold sel (l0 ++ lp)).2 ⟨fs, List.mem_append_right _ hfs, hc⟩
    rw [aggFold_append] at hd
    simp only [hp, hd, if_true]
    split
    · rfl
    · rename_i h0; rw [aggFold_noData sel l0 (by simpa using h0)]; rfl
  · rw [aggFold_noData sel lp (by simpa using hp), mergeSet_empty_right, hasData_emptySet]
    rfl

theorem merge_step (sel : List SelCond) (gb : List Bytes) (g : Groups) (seen p : List Fields)
    (hg : ∀ k, lookup g k = dataSet sel gb k seen) (k : Bytes) :
    lookup (mergeGroups sel g (transmitted (serverPartial sel gb p))) k = dataSet sel gb k (seen ++ p) := by
  rw [lookup_mergeGroups _ _ _ _ (nodup_partial sel gb p), lookup_partial, hg k, dataSet_append]

theorem distributed_eq_central (sel : List SelCond) (gb : List Bytes) (parts : List (List Fields)) (k : Bytes) :
    lookup (distributed sel gb parts) k = lookup (central sel gb parts.flatten) k := by
  rw [central_lookup]
  exact C05.foldl_parts (fun g seen => ∀ k, lookup g k = dataSet sel gb k seen) _ (merge_step sel gb) parts [] []
    (fun _ => by simp [dataSet, linesOf, aggFold, hasData_emptySet]) k

def CommOps (sel : List SelCond) : Prop :=
  ∀ sc ∈ sel, sc.op = .count ∨ sc.op = .sum ∨ sc.op = .avg ∨ sc.op = .min ∨ sc.op = .max

theorem aggFold_perm (sel : List SelCond) (hc : CommOps sel) (l l' : List Fields) (hp : l.Perm l') :
    aggFold sel l = aggFold sel l' := by
  simp only [aggFold_canon]
  congr 1
  · exact (hp.filter _).length_eq
  · exact List.map_congr_left fun sc hsc => C05.colFold_perm sc.op _ _ (hp.filterMap _) (hc sc hsc)

theorem distributed_perm (sel : List SelCond) (gb : List Bytes) (hc : CommOps sel)
    (parts parts' : List (List Fields)) (hp : parts.Perm parts') (k : Bytes) :
    lookup (distributed sel gb parts) k = lookup (distributed sel gb parts') k := by
  rw [distributed_eq_central, distributed_eq_central, central_lookup, central_lookup, dataSet, dataSet, linesOf,
    linesOf, aggFold_perm sel hc _ _ (hp.flatten.filter _)]

end Dtail.AggPipe
