/-
The driver's linear-time versions are the model's functions.  Each keeps the model's state with its lists reversed: `abs`
reads the model state back, a step lemma says that `abs` commutes with one byte, and the rule for folds does the rest.
-/
import DtailModel.Model.Fast
import DtailModel.Lemmas.Wire
import DtailModel.Lemmas.ListFacts
namespace Dtail

def RSF.abs (f : RSF) : RS := ⟨f.rmsg.reverse, f.rout.reverse⟩

theorem stepByteF_abs (m : Nat) (f : RSF) (b : UInt8) (hl : f.len = f.rmsg.length) :
    (stepByteF m f b).abs = stepByte m f.abs b ∧ (stepByteF m f b).len = (stepByteF m f b).rmsg.length := by
  have hlen : f.abs.msg.length = f.len := by simp [RSF.abs, hl]
  unfold stepByteF
  by_cases hb : b = NL
  · subst hb; rw [if_pos rfl, stepByte_nl]; simp [RSF.abs]
  · rw [if_neg hb]
    by_cases hk : f.len + 1 ≥ m
    · rw [if_pos hk, stepByte_full m _ b hb (by rw [hlen]; exact hk)]; simp [RSF.abs]
    · rw [if_neg hk, stepByte_more m _ b hb (by rw [hlen]; omega)]; simp [RSF.abs, hl]

theorem readLinesF_eq (m : Nat) (bs : Bytes) : readLinesF m bs = readLines m bs := by
  obtain ⟨h, -⟩ := List.foldl_rel (l := bs) (f := stepByteF m) (g := stepByte m) (a := ⟨[], 0, []⟩) (b := ⟨[], []⟩)
    (r := fun f s => f.abs = s ∧ f.len = f.rmsg.length) ⟨rfl, rfl⟩
    fun b _ f s h => by rw [← h.1]; exact stepByteF_abs m f b h.2
  unfold readLinesF readLines eofFlush readFrom
  rw [← h]
  simp only [RSF.abs, List.reverse_eq_nil_iff]
  split <;> simp

def CSF.abs (f : CSF) : CS := ⟨f.rbuf.reverse, f.rmsgs.reverse⟩

theorem clientByteF_abs (f : CSF) (b : UInt8) : (clientByteF f b).abs = clientByte f.abs b := by
  unfold clientByteF
  by_cases h1 : b = NL
  · subst h1; rw [if_pos rfl, clientByte_nl]; simp [CSF.abs]
  · by_cases h2 : b = DELIM
    · subst h2; rw [if_neg h1, if_pos rfl, clientByte_delim]; simp [CSF.abs]
    · rw [if_neg h1, if_neg h2, clientByte_other _ _ h1 h2]; simp [CSF.abs]

theorem clientMsgsF_eq (bs : Bytes) : clientMsgsF bs = (clientFeed ⟨[], []⟩ bs).msgs :=
  congrArg CS.msgs (List.foldl_hom CSF.abs (l := bs) (init := ⟨[], []⟩) fun f b => (clientByteF_abs f b).symm).symm

/-- slot `j` of the fast state's list is the reversed buffer of connection `j` of the model state -/
def relM (n : Nat) (f : MSF) (s : MultiState) : Prop :=
  f.rbufs.length = n ∧ (∀ j, j < n → ((f.rbufs[j]?).getD []).reverse = s.bufs j) ∧ f.rout.reverse = s.out

theorem multiByteF_rel (n i : Nat) (hi : i < n) (f : MSF) (s : MultiState) (b : UInt8) (h : relM n f s) :
    relM n (multiByteF i f b) (multiByte i s b) := by
  obtain ⟨hl, hb, ho⟩ := h
  have hbi := hb i hi
  have set : ∀ x : Bytes, ∀ j, j < n →
      (((f.rbufs.set i x)[j]?).getD []).reverse = if j = i then x.reverse else s.bufs j := by
    intro x j hj
    rw [← List.getD_eq_getElem?_getD, getD_set _ _ _ _ _ (hl ▸ hi)]
    split
    · rfl
    · rw [List.getD_eq_getElem?_getD]; exact hb j hj
  have len : ∀ x : Bytes, (f.rbufs.set i x).length = n := fun x => List.length_set.trans hl
  have out : ∀ x : Bytes, ((i, x) :: f.rout).reverse = s.out ++ [(i, x)] := fun x => by rw [List.reverse_cons, ho]
  have cons : (b :: (f.rbufs[i]?).getD []).reverse = s.bufs i ++ [b] := by rw [List.reverse_cons, hbi]
  unfold multiByteF multiByte
  by_cases h1 : b = NL
  · rw [if_pos h1, if_pos h1]; exact ⟨len _, set [], by rw [← cons]; exact out _⟩
  · rw [if_neg h1, if_neg h1]
    by_cases h2 : b = DELIM
    · rw [if_pos h2, if_pos h2]; exact ⟨len _, set [], by rw [← hbi]; exact out _⟩
    · rw [if_neg h2, if_neg h2]; exact ⟨len _, by rw [← cons]; exact set _, ho⟩

theorem multiRunF_eq (n : Nat) (sched : List (Nat × Bytes)) (h : ∀ c ∈ sched, c.1 < n) :
    multiRunF n sched = (multiRun sched).out := by
  have h0 : relM n ⟨List.replicate n [], []⟩ multiInit :=
    ⟨List.length_replicate, fun j hj => by simp [multiInit, hj], rfl⟩
  exact (List.foldl_rel (r := relM n) (f := multiChunkF) (g := multiChunk) h0 fun c hc _ _ hr =>
    List.foldl_rel hr fun b _ f s => multiByteF_rel n c.1 (h c hc) f s b).2.2

end Dtail
