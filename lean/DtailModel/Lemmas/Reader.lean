import DtailModel.Model.Reader
namespace Dtail

theorem stepByte_nl (m : Nat) (s : RS) : stepByte m s NL = ⟨[], s.out ++ [s.msg ++ [NL]]⟩ := by
  simp [stepByte]

theorem stepByte_full (m : Nat) (s : RS) (b : UInt8) (hb : b ≠ NL) (hk : m ≤ s.msg.length + 1) :
    stepByte m s b = ⟨[], s.out ++ [s.msg ++ [b, NL]]⟩ := by
  simp [stepByte, hb, hk]

theorem stepByte_more (m : Nat) (s : RS) (b : UInt8) (hb : b ≠ NL) (hk : s.msg.length + 1 < m) :
    stepByte m s b = ⟨s.msg ++ [b], s.out⟩ := by
  simp [stepByte, hb, Nat.not_le.2 hk]

theorem readFrom_cons (m : Nat) (s : RS) (b : UInt8) (bs : Bytes) :
    readFrom m s (b :: bs) = readFrom m (stepByte m s b) bs := rfl

theorem readFrom_append (m : Nat) (s : RS) (a b : Bytes) :
    readFrom m s (a ++ b) = readFrom m (readFrom m s a) b := List.foldl_append

theorem readFrom_flatten (m : Nat) (bs : Bytes) (s : RS) :
    (readFrom m s bs).out.flatten ++ (readFrom m s bs).msg
      = s.out.flatten ++ (s.msg ++ insertNL m s.msg.length bs) := by
  induction bs generalizing s with
  | nil => simp [readFrom, insertNL]
  | cons b bs ih =>
    rw [readFrom_cons, ih, insertNL]
    by_cases hb : b = NL
    · rw [if_pos hb, hb, stepByte_nl]; simp
    · by_cases hk : m ≤ s.msg.length + 1
      · rw [if_neg hb, if_pos hk, stepByte_full m s b hb hk]; simp
      · rw [if_neg hb, if_neg hk, stepByte_more m s b hb (Nat.not_le.1 hk)]; simp

theorem eofFlush_flatten (s : RS) : (eofFlush s).flatten = s.out.flatten ++ s.msg := by
  unfold eofFlush
  split
  · next e => rw [e, List.append_nil]
  · rw [List.flatten_append, List.flatten_singleton]

theorem readLines_flatten (m : Nat) (bs : Bytes) : (readLines m bs).flatten = insertNL m 0 bs := by
  rw [readLines, eofFlush_flatten, readFrom_flatten]; rfl

theorem mem_insertNL (m : Nat) (bs : Bytes) (k : Nat) (x : UInt8) :
    x ∈ insertNL m k bs → x ∈ bs ∨ x = NL := by
  fun_induction insertNL m k bs with
  | case1 => exact nofun
  | case2 _ bs ih =>
    exact fun h => (List.mem_cons.1 h).elim .inr fun h => (ih h).imp_left (List.mem_cons_of_mem _)
  | case3 _ b bs _ _ ih =>
    exact fun h => (List.mem_cons.1 h).elim (fun e => .inl (e ▸ List.mem_cons_self)) fun h =>
      (List.mem_cons.1 h).elim .inr fun h => (ih h).imp_left (List.mem_cons_of_mem b)
  | case4 _ b bs _ _ ih =>
    exact fun h => (List.mem_cons.1 h).elim (fun e => .inl (e ▸ List.mem_cons_self)) fun h =>
      (ih h).imp_left (List.mem_cons_of_mem b)

def LineWF (l : Bytes) : Prop :=
  (∃ body, l = body ++ [NL] ∧ NL ∉ body) ∨ (NL ∉ l ∧ l ≠ [])

/-- What the reader keeps true in any mode: every line sent so far ends in its newline.  Only the flush at the end of the
    file, which a tail reader never does, sends a line without one. -/
def ReaderInv (s : RS) : Prop := NL ∉ s.msg ∧ ∀ l ∈ s.out, ∃ body, l = body ++ [NL] ∧ NL ∉ body

theorem stepByte_inv (m : Nat) (s : RS) (b : UInt8) (h : ReaderInv s) : ReaderInv (stepByte m s b) := by
  obtain ⟨hmsg, hout⟩ := h
  have send : ∀ body, NL ∉ body → ReaderInv ⟨[], s.out ++ [body ++ [NL]]⟩ := fun body hb =>
    ⟨List.not_mem_nil, fun l hl => (List.mem_append.1 hl).elim (hout l) fun hl => ⟨body, List.mem_singleton.1 hl, hb⟩⟩
  by_cases hb : b = NL
  · rw [hb, stepByte_nl]; exact send _ hmsg
  · have hmsg' : NL ∉ s.msg ++ [b] := List.not_mem_append hmsg (by simpa using Ne.symm hb)
    by_cases hk : m ≤ s.msg.length + 1
    · rw [stepByte_full m s b hb hk, show s.msg ++ [b, NL] = (s.msg ++ [b]) ++ [NL] by simp]
      exact send _ hmsg'
    · rw [stepByte_more m s b hb (Nat.not_le.1 hk)]; exact ⟨hmsg', hout⟩

theorem readFrom_inv (m : Nat) (bs : Bytes) (s : RS) (h : ReaderInv s) : ReaderInv (readFrom m s bs) :=
  List.foldlRecOn bs (stepByte m) h fun s hs b _ => stepByte_inv m s b hs

theorem readerInv_init : ReaderInv ⟨[], []⟩ := ⟨List.not_mem_nil, fun _ h => nomatch h⟩

theorem readLines_wf (m : Nat) (bs : Bytes) : ∀ l ∈ readLines m bs, LineWF l := by
  obtain ⟨hmsg, hout⟩ := readFrom_inv m bs _ readerInv_init
  intro l hl
  unfold readLines eofFlush at hl
  split at hl
  · exact .inl (hout l hl)
  · next hne =>
    rcases List.mem_append.1 hl with hl | hl
    · exact .inl (hout l hl)
    · rw [List.mem_singleton.1 hl]; exact .inr ⟨hmsg, hne⟩

end Dtail
