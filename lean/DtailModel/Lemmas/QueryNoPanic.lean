/-
The query front end never panics (C10, C11): every index and slice of the clause builders stands under a
length test that covers it, and the clause loop is `parseClause_cons`.
-/
import DtailModel.Lemmas.QueryParse
namespace Dtail

theorem parseSelect_noPanic (t : Tok) : (parseSelect t).NoPanic := by
  unfold parseSelect
  refine sat_ite (fun _ => trivial) fun _ => ?_
  dsimp only
  refine sat_ite (fun _ => trivial) fun _ => ?_
  refine sat_index (k := 0) (by omega) fun agg => sat_index (k := 1) (by omega) fun a1 => ?_
  refine sat_ite (fun _ => trivial) fun _ => sat_index (k := 0) (by omega) fun f => ?_
  cases aggOfName agg <;> trivial

theorem makeSelect_noPanic (ts : List Tok) : (makeSelect ts).NoPanic := by
  induction ts with
  | nil => trivial
  | cons t rest ih =>
    rw [makeSelect]
    exact sat_bind (parseSelect_noPanic t) fun _ _ => sat_bind ih fun _ _ => trivial

theorem parseWhere_noPanic (fl : FloatOracle) (ts : List Tok) : (parseWhere fl ts).NoPanic := by
  unfold parseWhere
  refine sat_ite (fun _ => trivial) fun _ => ?_
  refine sat_index (k := 0) (by omega) fun t0 => sat_index (k := 1) (by omega) fun t1 =>
    sat_index (k := 2) (by omega) fun t2 => ?_
  cases whereOpOf (lowerKey t1.str) with
  | none => trivial
  | some op =>
    refine sat_sliceFrom (by omega) fun rest => sat_ite (fun _ => ?_) fun _ => trivial
    refine sat_ite (fun _ => trivial) fun _ => ?_
    cases fl t0.str <;> exact sat_ite (fun _ => trivial) fun _ => by cases fl t2.str <;> trivial

theorem makeWhereAux_noPanic (fl : FloatOracle) (fuel : Nat) (ts : List Tok) : (makeWhereAux fl fuel ts).NoPanic := by
  induction fuel generalizing ts with
  | zero => trivial
  | succ n ih =>
    rw [makeWhereAux]
    exact sat_ite (fun _ => trivial) fun _ =>
      sat_bind (parseWhere_noPanic fl ts) fun _ _ => sat_bind (ih _) fun _ _ => trivial

/-- the slice bounds of `NewFunctionStack`: the first '(' of a string that ends in ')' is not
    its last byte -/
theorem funcStack_bounds (aux : Bytes) (index : Nat) (hs : hasSuffix [RPAR] aux = true)
    (hi : aux.idxOf? LPAR = some index) : index ≤ aux.length ∧ index + 1 ≤ aux.length - 1 := by
  obtain ⟨hlt, hget, _⟩ := List.idxOf?_eq_some_iff.1 hi
  obtain ⟨t, ht⟩ := List.isSuffixOf_iff_suffix.1 hs
  subst ht
  simp only [List.length_append, List.length_singleton] at hlt ⊢
  by_cases e : index = t.length
  · subst e
    simp [LPAR, RPAR] at hget
  · omega

theorem funcStackAux_noPanic (fuel : Nat) (aux : Bytes) (fs : List Bytes) : (funcStackAux fuel aux fs).NoPanic := by
  induction fuel generalizing aux fs with
  | zero => trivial
  | succ n ih =>
    rw [funcStackAux]
    refine sat_ite (fun _ => trivial) fun hsuf => ?_
    cases hidx : aux.idxOf? LPAR with
    | none => trivial
    | some index =>
      cases index with
      | zero => trivial
      | succ i =>
        have hb := funcStack_bounds aux (i + 1) (by simpa using hsuf) hidx
        refine sat_slice (by omega) (by omega) fun name => sat_ite (fun _ => ?_) fun _ => trivial
        exact sat_slice (by omega) (by omega) fun inner => ih _ _

theorem parseSet_noPanic (fl : FloatOracle) (ts : List Tok) : (parseSet fl ts).NoPanic := by
  unfold parseSet
  refine sat_ite (fun _ => trivial) fun _ => ?_
  refine sat_index (k := 0) (by omega) fun t0 => sat_index (k := 1) (by omega) fun t1 =>
    sat_index (k := 2) (by omega) fun t2 => ?_
  iterate 3 refine sat_ite (fun _ => trivial) fun _ => ?_
  refine sat_sliceFrom (by omega) fun rest => sat_ite (fun _ => trivial) fun _ => sat_ite (fun _ => ?_) fun _ => ?_
  · exact sat_bind (funcStackAux_noPanic _ _ _) fun _ _ => trivial
  · cases fl t2.str <;> trivial

theorem makeSetAux_noPanic (fl : FloatOracle) (fuel : Nat) (ts : List Tok) : (makeSetAux fl fuel ts).NoPanic := by
  induction fuel generalizing ts with
  | zero => trivial
  | succ n ih =>
    rw [makeSetAux]
    exact sat_ite (fun _ => trivial) fun _ =>
      sat_bind (parseSet_noPanic fl ts) fun _ _ => sat_bind (ih _) fun _ _ => trivial

theorem clausePatch_noPanic (fl : FloatOracle) (kwl : Bytes) (found : List Tok) : (clausePatch fl kwl found).NoPanic := by
  unfold clausePatch
  -- the branches that call a builder; the others only look at the shape of `found`
  refine sat_ite (fun _ => sat_bind (makeSelect_noPanic _) fun _ _ => trivial) fun _ => ?_
  refine sat_ite (fun _ => by (repeat' split) <;> trivial) fun _ => ?_
  refine sat_ite (fun _ => sat_bind (makeWhereAux_noPanic _ _ _) fun _ _ => trivial) fun _ => ?_
  refine sat_ite (fun _ => sat_bind (makeSetAux_noPanic _ _ _) fun _ _ => trivial) fun _ => ?_
  iterate 6 refine sat_ite (fun _ => by (repeat' split) <;> trivial) fun _ => ?_
  trivial

theorem parseClause_noPanic (fl : FloatOracle) (q : Query) (kw : Tok) (tail : List Tok) :
    (parseClause fl q (kw :: tail)).NoPanic := by
  rw [parseClause_cons]
  exact sat_ite (fun _ => trivial) fun _ => sat_bind (clausePatch_noPanic _ _ _) fun _ _ => trivial

theorem parseTokensAux_noPanic (fl : FloatOracle) (fuel : Nat) (q : Query) (ts : List Tok) :
    (parseTokensAux fl fuel q ts).NoPanic := by
  induction fuel generalizing q ts with
  | zero => trivial
  | succ n ih =>
    rw [parseTokensAux]
    cases ts with
    | nil => trivial
    | cons kw tail => exact sat_bind (parseClause_noPanic fl q kw tail) fun _ _ => ih _ _

theorem parseQuery_noPanic (fl : FloatOracle) (ts : List Tok) : (parseQuery fl ts).NoPanic := by
  unfold parseQuery
  refine sat_bind (parseTokensAux_noPanic fl _ _ ts) fun q _ => sat_ite (fun _ => trivial) fun _ => ?_
  -- `k`: the final check, behind the default group key `q.sel[0]`
  extract_lets k
  have hk : ∀ q, (k q).NoPanic := fun q => by unfold k; split <;> trivial
  split
  · exact sat_index (k := 0) (by omega) fun _ => hk _
  · exact hk _

theorem newQuery_noPanic (fl : FloatOracle) (s : Bytes) : (newQuery fl s).NoPanic := by
  unfold newQuery
  exact sat_ite (fun _ => trivial) fun _ => sat_bind (parseQuery_noPanic fl _) fun _ _ => trivial

end Dtail
