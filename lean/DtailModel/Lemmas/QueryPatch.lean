/-
The patches of a clause list (C11).  Clauses of different kinds set different fields of the query, so their
patches commute and the order of the clauses is irrelevant.
-/
import DtailModel.Lemmas.QueryParse
import DtailModel.Lemmas.ListFacts
namespace Dtail

def patchesOf (fl : FloatOracle) : List ClauseT → Outcome (List QPatch)
  | [] => .ok []
  | c :: cs =>
    (clausePatch fl (lowerKey c.kw.str) ((afterBy (lowerKey c.kw.str) c.body).filterMap normTok)).bind fun p =>
      (patchesOf fl cs).bind fun ps => .ok (p :: ps)

def applyAll (ps : List QPatch) (q : Query) : Query := ps.foldl (fun q p => p.apply q) q

theorem patchesOf_cons (fl : FloatOracle) (c : ClauseT) (cs : List ClauseT) (ps : List QPatch) :
    patchesOf fl (c :: cs) = .ok ps ↔ ∃ p ps0, patchOf fl c = .ok p ∧ patchesOf fl cs = .ok ps0 ∧ ps = p :: ps0 := by
  rw [patchesOf, ← patchOf]
  cases patchOf fl c with
  | ok p => cases patchesOf fl cs <;> simp [Outcome.bind, eq_comm]
  | err e => simp [Outcome.bind]
  | panic e => simp [Outcome.bind]

theorem foldClauses_patches (fl : FloatOracle) (cs : List ClauseT) (hwf : ∀ c ∈ cs, ClauseWF c) (q : Query)
    (ps : List QPatch) (hp : patchesOf fl cs = .ok ps) : foldClauses fl q cs = .ok (applyAll ps q) := by
  induction cs generalizing q ps with
  | nil => cases hp; rfl
  | cons c rest ih =>
    obtain ⟨p, ps', h1, h2, rfl⟩ := (patchesOf_cons fl c rest ps).1 hp
    have hc := hwf c (by simp)
    rw [foldClauses, clauseStep_patch fl q c hc.2.1 hc.2.2, h1]
    exact ih (fun x hx => hwf x (List.mem_cons_of_mem _ hx)) (p.apply q) ps' h2

/-- two patches touch different fields -/
def QPatch.disj (a b : QPatch) : Prop :=
  (a.sel = none ∨ b.sel = none) ∧ (a.table = none ∨ b.table = none) ∧ (a.whr = none ∨ b.whr = none)
  ∧ (a.set = none ∨ b.set = none) ∧ (a.group = none ∨ b.group = none) ∧ (a.order = none ∨ b.order = none)
  ∧ (a.interval = none ∨ b.interval = none) ∧ (a.limit = none ∨ b.limit = none)
  ∧ (a.outfile = none ∨ b.outfile = none) ∧ (a.logFormat = none ∨ b.logFormat = none)

theorem QPatch.apply_comm (a b : QPatch) (q : Query) (h : a.disj b) : a.apply (b.apply q) = b.apply (a.apply q) := by
  obtain ⟨h1, h2, h3, h4, h5, h6, h7, h8, h9, h10⟩ := h
  simp only [QPatch.apply]
  -- Field by field (the twelve fields of `Query` in order; the group and the order key are each read by two of them): a
  -- patch whose entry is `none` hands the field on as it is, so the field has the other patch's value in either order.
  congr 1
  · rcases h1 with h | h <;> rw [h] <;> rfl
  · rcases h2 with h | h <;> rw [h] <;> rfl
  · rcases h3 with h | h <;> rw [h] <;> rfl
  · rcases h4 with h | h <;> rw [h] <;> rfl
  · rcases h5 with h | h <;> rw [h] <;> rfl
  · rcases h6 with h | h <;> rw [h] <;> rfl
  · rcases h6 with h | h <;> rw [h] <;> rfl
  · rcases h5 with h | h <;> rw [h] <;> rfl
  · rcases h7 with h | h <;> rw [h] <;> rfl
  · rcases h8 with h | h <;> rw [h] <;> rfl
  · rcases h9 with h | h <;> rw [h] <;> rfl
  · rcases h10 with h | h <;> rw [h] <;> rfl

theorem applyAll_perm (ps ps' : List QPatch) (hperm : ps.Perm ps') (hd : ps.Pairwise QPatch.disj) (q : Query) :
    applyAll ps q = applyAll ps' q :=
  foldl_perm_of_pairwise hperm (hd.imp fun h z => (QPatch.apply_comm _ _ z h).symm) q

def kindOf (kwl : Bytes) : Nat :=
  if kwl = b!"select" then 0 else if kwl = b!"from" then 1 else if kwl = b!"where" then 2
  else if kwl = b!"set" then 3 else if kwl = b!"group" then 4
  else if kwl = b!"rorder" ∨ kwl = b!"order" then 5 else if kwl = b!"interval" then 6
  else if kwl = b!"limit" then 7 else if kwl = b!"outfile" then 8 else if kwl = b!"logformat" then 9 else 10

def clauseKind (c : ClauseT) : Nat := kindOf (lowerKey c.kw.str)

/-- the patch touches at most the field(s) of kind `k` -/
def QPatch.only (k : Nat) (p : QPatch) : Prop :=
  (k ≠ 0 → p.sel = none) ∧ (k ≠ 1 → p.table = none) ∧ (k ≠ 2 → p.whr = none) ∧ (k ≠ 3 → p.set = none)
  ∧ (k ≠ 4 → p.group = none) ∧ (k ≠ 5 → p.order = none) ∧ (k ≠ 6 → p.interval = none)
  ∧ (k ≠ 7 → p.limit = none) ∧ (k ≠ 8 → p.outfile = none) ∧ (k ≠ 9 → p.logFormat = none)

theorem QPatch.disj_of_only (a b : QPatch) (k k' : Nat) (ha : a.only k) (hb : b.only k') (hne : k ≠ k') : a.disj b := by
  -- field `i` is not of both kinds
  have pick : ∀ (i : Nat) {P Q : Prop}, (k ≠ i → P) → (k' ≠ i → Q) → P ∨ Q := fun i _ _ hp hq =>
    if h : k = i then .inr (hq (h ▸ hne.symm)) else .inl (hp h)
  obtain ⟨a0, a1, a2, a3, a4, a5, a6, a7, a8, a9⟩ := ha
  obtain ⟨b0, b1, b2, b3, b4, b5, b6, b7, b8, b9⟩ := hb
  exact ⟨pick 0 a0 b0, pick 1 a1 b1, pick 2 a2 b2, pick 3 a3 b3, pick 4 a4 b4, pick 5 a5 b5, pick 6 a6 b6,
    pick 7 a7 b7, pick 8 a8 b8, pick 9 a9 b9⟩

theorem clausePatch_unknown (fl : FloatOracle) (kwl : Bytes) (found : List Tok) (h : kindOf kwl = 10) :
    clausePatch fl kwl found = .err "Unexpected keyword" := by
  revert h
  unfold kindOf clausePatch
  iterate 10 refine ite_rel (R := fun k o => k = 10 → o = _) (fun _ h => absurd h (by decide)) fun _ => ?_
  exact fun _ => rfl

theorem clausePatch_only (fl : FloatOracle) (kwl : Bytes) (found : List Tok) (p : QPatch) :
    clausePatch fl kwl found = .ok p → p.only (kindOf kwl) := by
  unfold kindOf clausePatch
  -- Where a test succeeds, `h` says that the branch of that keyword returns `p`.  Taken apart into the ways the branch can
  -- end, `h` is impossible (an error) or gives `p` as a structure literal that sets the field of that keyword alone.
  iterate 10
    refine ite_rel (R := fun o k => o = Outcome.ok p → p.only k) (fun _ h => ?_) fun _ => ?_
    · try unfold Outcome.bind at h
      repeat' split at h
      all_goals cases h
      all_goals simp [QPatch.only]
  exact fun h => nomatch h

theorem patchesOf_mem (fl : FloatOracle) (cs : List ClauseT) (ps : List QPatch) (h : patchesOf fl cs = .ok ps)
    (p : QPatch) (hp : p ∈ ps) : ∃ c ∈ cs, patchOf fl c = .ok p := by
  induction cs generalizing ps with
  | nil => cases h; cases hp
  | cons c rest ih =>
    obtain ⟨p0, ps0, h1, h2, rfl⟩ := (patchesOf_cons fl c rest ps).1 h
    rcases List.mem_cons.1 hp with rfl | hm
    · exact ⟨c, List.mem_cons_self, h1⟩
    · obtain ⟨c', hc', hpc'⟩ := ih ps0 h2 hm
      exact ⟨c', List.mem_cons_of_mem _ hc', hpc'⟩

theorem patchesOf_pairwise (fl : FloatOracle) (cs : List ClauseT) (ps : List QPatch) (h : patchesOf fl cs = .ok ps)
    (hk : (cs.map clauseKind).Nodup) : ps.Pairwise QPatch.disj := by
  induction cs generalizing ps with
  | nil => cases h; exact List.Pairwise.nil
  | cons c rest ih =>
    obtain ⟨p0, ps0, h1, h2, rfl⟩ := (patchesOf_cons fl c rest ps).1 h
    rw [List.map_cons, List.nodup_cons] at hk
    refine List.pairwise_cons.2 ⟨fun p' hp' => ?_, ih ps0 h2 hk.2⟩
    obtain ⟨c', hc', hpc'⟩ := patchesOf_mem fl rest ps0 h2 p' hp'
    exact QPatch.disj_of_only p0 p' _ _ (clausePatch_only fl _ _ p0 h1) (clausePatch_only fl _ _ p' hpc')
      fun (e : clauseKind c = clauseKind c') => hk.1 (e ▸ List.mem_map_of_mem hc')

theorem patchesOf_perm (fl : FloatOracle) (cs cs' : List ClauseT) (hperm : cs.Perm cs') (ps : List QPatch)
    (h : patchesOf fl cs = .ok ps) : ∃ ps', patchesOf fl cs' = .ok ps' ∧ ps.Perm ps' := by
  induction hperm generalizing ps with
  | nil => exact ⟨ps, h, List.Perm.refl _⟩
  | cons x _ ih =>
    obtain ⟨p0, ps0, h1, h2, rfl⟩ := (patchesOf_cons fl x _ ps).1 h
    obtain ⟨ps1, h3, hp⟩ := ih ps0 h2
    exact ⟨p0 :: ps1, (patchesOf_cons fl x _ _).2 ⟨p0, ps1, h1, h3, rfl⟩, hp.cons p0⟩
  | swap x y l =>
    obtain ⟨p0, ps0, h1, h2, rfl⟩ := (patchesOf_cons fl y _ ps).1 h
    obtain ⟨p1, ps1, h3, h4, rfl⟩ := (patchesOf_cons fl x _ ps0).1 h2
    exact ⟨p1 :: p0 :: ps1, (patchesOf_cons fl x _ _).2 ⟨p1, p0 :: ps1, h3, (patchesOf_cons fl y _ _).2 ⟨p0, ps1, h1, h4, rfl⟩, rfl⟩,
      List.Perm.swap p1 p0 ps1⟩
  | trans _ _ ih1 ih2 =>
    obtain ⟨ps1, h1, hp1⟩ := ih1 ps h
    obtain ⟨ps2, h2, hp2⟩ := ih2 ps1 h1
    exact ⟨ps2, h2, hp1.trans hp2⟩

end Dtail
