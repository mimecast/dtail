/-
Tie G for readcommand.go makeGlobID(): the function as translated from the working tree on this run computes the
identifier of the hand-written model `makeGlobID` (Model/GlobID.lean), on which the attribution theorems of C07 are
stated, whenever the path has at least as many components as the glob (what filepath.Glob returns for the cleaned
pattern has exactly as many; with fewer, Go panics and the model says so).
-/
import DtailModel.Generated.Code
import DtailModel.Lemmas.GoRT
import DtailModel.Lemmas.GlobID
namespace Dtail.GenGlobID
open Dtail Dtail.Go Dtail.Gen.Handlers

theorem isWild_eq (g : Bytes) :
    (List.contains g (42 : UInt8) || List.contains g (63 : UInt8) || List.contains g (91 : UInt8)) = isWild g := rfl

/-- the translated loop from position `|pre|` on, `acc` collected so far: its total indexing `GoIndex.idx` reads the
    components `ps` one by one, so it selects as `starSel` does -/
theorem loop_eq (pre ps gs : List Bytes) (h : gs.length ≤ ps.length) (acc : List GoString)
    (after : List GoString → readCommand × GoString) :
    goRange ((gs.zipIdx pre.length).map fun x => ((x.2 : Int), x.1)) acc
      (fun idParts (x : Int × Bytes) =>
        if isWild x.2 = true then LoopStep.next (idParts ++ [(GoIndex.idx (pre ++ ps) x.1)]) else LoopStep.next idParts) after
      = after (acc ++ starSel ps gs) := by
  induction gs generalizing pre ps acc with
  | nil => cases ps <;> simp [goRange, starSel]
  | cons g gs ih =>
    cases ps with
    | nil => simp at h
    | cons p ps =>
      have ih := ih (pre ++ [p]) ps (by simpa using h)
      simp only [List.append_assoc, List.singleton_append, List.length_append, List.length_singleton] at ih
      have hi : (GoIndex.idx (pre ++ p :: ps) (pre.length : Int) : Bytes) = p := by
        show (pre ++ p :: ps).getD (pre.length : Int).toNat GoZero.zero = p
        simp
      simp only [List.zipIdx_cons, List.map_cons, goRange, starSel, hi]
      by_cases hw : isWild g = true
      · simp only [hw, if_true, ih, List.append_assoc, List.singleton_append]
      · simp only [hw, Bool.false_eq_true, if_false, ih]

/-- `l[len(l)-1]` is the last element -/
theorem idx_last (l : List GoString) : (GoIndex.idx l ((GoLen.len l : Int) - 1) : GoString) = l.getLast?.getD [] := by
  show l.getD ((l.length : Int) - 1).toNat [] = _
  rw [show ((l.length : Int) - 1).toNat = l.length - 1 by omega, List.getLast?_eq_getElem?, List.getD_eq_getElem?_getD]

/-- **the translated `makeGlobID` computes the model's identifier** -/
theorem makeGlobID_refines (ext : Ext) (r : readCommand) (path glob : Bytes)
    (h : (splitOnByte SLASH glob).length ≤ (splitOnByte SLASH path).length) :
    ∃ id, makeGlobID path glob = .ok id ∧ readCommand.makeGlobID ext r path glob = (r, id) := by
  refine ⟨_, makeGlobID_ok path glob h, ?_⟩
  unfold readCommand.makeGlobID goEnum
  refine Eq.trans (loop_eq [] (splitOnByte 47 path) (splitOnByte 47 glob) h [] _) ?_
  simp only [List.nil_append, idx_last, SLASH]
  cases starSel (splitOnByte 47 path) (splitOnByte 47 glob) with
  | nil =>
    -- the guard `len(pathParts) > 0` makes no difference to the value
    cases splitOnByte 47 path with
    | nil => rfl
    | cons p ps => rw [if_neg (by decide), if_pos (len_pos_cons p ps)]
  | cons a as => rw [if_pos (len_pos_cons a as)]

end Dtail.GenGlobID
