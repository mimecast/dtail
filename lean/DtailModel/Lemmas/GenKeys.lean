/-
The public-key check, `verifyAuthorizedKeys` of internal/ssh/server/publickeycallback.go (`Gen.Keys`).  `ssh.ParseAuthorizedKey`
is the parameter `ext.parseAuthorizedKey`; a public key is its marshalled form.  The translated function accepts the offered key
exactly when it is among the keys the parser finds in the file, one after the other, until it finds no more — the model's
`collectKeys` (Model/Auth.lean) under the parser's `Contract`.
-/
import DtailModel.Generated.Code
import DtailModel.Lemmas.GoRT
import DtailModel.Model.Auth
namespace Dtail.GenKeys
open Dtail Dtail.Go Dtail.Gen.Keys

/-- the keys the loop collects -/
def keysG (ext : Ext) : Nat → GoString → List GoString
  | 0, _ => []
  | n + 1, b =>
    if b = [] then [] else
    match ext.parseAuthorizedKey b with
    | (k, _, _, rest, none) => k :: keysG ext n rest
    | _ => []

/-- assumed of `ssh.ParseAuthorizedKey`: it consumes something whenever it finds a key; this keeps the loop within its fuel -/
def Shrinks (ext : Ext) : Prop :=
  ∀ b, (ext.parseAuthorizedKey b).2.2.2.2 = none → (ext.parseAuthorizedKey b).2.2.2.1.length < b.length

def Holds (m : GoMap GoString Bool) (ks : List GoString) : Prop := ∀ k, (GoIndex.idx m k : Bool) = ks.contains k

theorem holds_set (m : GoMap GoString Bool) (ks : List GoString) (k : GoString) (h : Holds m ks) :
    Holds (GoIndex.upd m k true) (ks ++ [k]) := by
  intro k'
  show ((m.set k true).get? k').getD false = _
  by_cases hk : k' = k
  · rw [hk, GoMap.get?_set_eq]; simp
  · rw [GoMap.get?_set_ne m k k' true hk]
    exact (h k').trans (by simp [hk])

abbrev R := Outcome (GoPerms × GoErr)

/-- `keysCond`, `keysBody`, `keysAfter`: condition, body and continuation of the loop of `verifyAuthorizedKeys`, copied from
    the generated text -/
def keysCond : GoString × GoMap GoString Bool → Bool :=
  fun (authorizedKeysBytes, authorizedKeysMap) => (decide ((GoLen.len authorizedKeysBytes) > 0))

def keysBody (ext : Ext) : GoString × GoMap GoString Bool → LoopStep R (GoString × GoMap GoString Bool) :=
  fun (authorizedKeysBytes, authorizedKeysMap) =>
    let (_t1, _t2, _t3, _t4, _t5) := (ext.parseAuthorizedKey authorizedKeysBytes)
    let authorizedPubKey := _t1
    let _u6 := _t2
    let _u7 := _t3
    let restBytes := _t4
    let err := _t5
    if (err != none) then
      LoopStep.brk (authorizedKeysBytes, authorizedKeysMap)
    else
      let authorizedKeysMap := (GoIndex.upd authorizedKeysMap authorizedPubKey true)
      let authorizedKeysBytes := restBytes
      LoopStep.next (authorizedKeysBytes, authorizedKeysMap)

def keysAfter (offeredPubKey : GoString) : GoString × GoMap GoString Bool → R :=
  fun (authorizedKeysBytes, authorizedKeysMap) =>
    if (GoIndex.idx authorizedKeysMap offeredPubKey) then
      (Outcome.ok ((GoZero.zero : GoPerms), none))
    else
      (Outcome.ok ((GoZero.zero : GoPerms), (some lit_0)))

theorem verify_eq (ext : Ext) (u : GoUser) (b offered : GoString) :
    Gen.Keys.verifyAuthorizedKeys ext u b offered =
      goWhile ext.fuel (b, (GoZero.zero : GoMap GoString Bool)) keysCond (keysBody ext) (keysAfter offered)
        (Outcome.panic "out of fuel") := rfl

theorem keysAfter_spec (offered b : GoString) (m : GoMap GoString Bool) (ks : List GoString) (hm : Holds m ks) :
    keysAfter offered (b, m) = Outcome.ok ((), if ks.contains offered then none else some lit_0) := by
  show (if (GoIndex.idx m offered : Bool) then _ else _) = _
  rw [hm offered]
  cases ks.contains offered <;> rfl

theorem keysG_succ (ext : Ext) (n : Nat) (b : GoString) (hb : b ≠ []) :
    keysG ext (n + 1) b =
      if (ext.parseAuthorizedKey b).2.2.2.2 = none then
        (ext.parseAuthorizedKey b).1 :: keysG ext n (ext.parseAuthorizedKey b).2.2.2.1
      else [] := by
  rw [keysG, if_neg hb]
  rcases ext.parseAuthorizedKey b with ⟨k, c, o, rest, _ | e⟩ <;> rfl

theorem keysBody_eq (ext : Ext) (b : GoString) (m : GoMap GoString Bool) :
    keysBody ext (b, m) =
      if (ext.parseAuthorizedKey b).2.2.2.2 = none then
        .next ((ext.parseAuthorizedKey b).2.2.2.1, GoIndex.upd m (ext.parseAuthorizedKey b).1 true)
      else .brk (b, m) := by
  split <;> simp [keysBody, *]

theorem loop_spec (ext : Ext) (hs : Shrinks ext) (offered : GoString) :
    ∀ (fuel : Nat) (b : GoString) (m : GoMap GoString Bool) (ks : List GoString), Holds m ks → b.length < fuel →
      goWhile fuel (b, m) keysCond (keysBody ext) (keysAfter offered) (Outcome.panic "out of fuel")
      = Outcome.ok ((), if (ks ++ keysG ext fuel b).contains offered then none else some lit_0) := by
  intro fuel
  induction fuel with
  | zero => intro b m ks _ hf; cases hf
  | succ n ih =>
    intro b m ks hm hf
    unfold goWhile
    by_cases hb : b = []
    · subst hb
      rw [if_neg (show ¬keysCond (([] : GoString), m) = true from Bool.false_ne_true), keysG, if_pos rfl, List.append_nil]
      exact keysAfter_spec offered [] m ks hm
    · have hpos : keysCond (b, m) = true :=
        decide_eq_true (Int.ofNat_lt.2 (List.length_pos_iff.2 hb))
      rw [if_pos hpos, keysBody_eq, keysG_succ ext n b hb]
      by_cases he : (ext.parseAuthorizedKey b).2.2.2.2 = none
      · rw [if_pos he, if_pos he]
        simp only []
        rw [ih _ _ _ (holds_set m ks _ hm) (by have := hs b he; omega), List.append_assoc]
        rfl
      · rw [if_neg he, if_neg he, List.append_nil]
        exact keysAfter_spec offered b m ks hm

theorem verify_spec (ext : Ext) (hs : Shrinks ext) (u : GoUser) (b offered : GoString) (hf : b.length < ext.fuel) :
    Gen.Keys.verifyAuthorizedKeys ext u b offered
      = Outcome.ok ((), if (keysG ext ext.fuel b).contains offered then none else some lit_0) :=
  (verify_eq ext u b offered).trans
    (loop_spec ext hs offered ext.fuel b (GoZero.zero : GoMap GoString Bool) [] (fun _ => rfl) hf)

/-- the contract of `ssh.ParseAuthorizedKey` that links the bytes of a file to the model's lines: `enc` renders a list of lines
    as file content, and parsing that content is the model's skip-to-the-first-key-line -/
structure Contract (ext : Ext) (keyOf : Bytes → Option Key) (enc : List Bytes → Bytes) : Prop where
  parse : ∀ lines, match Dtail.parseAuthorizedKey keyOf lines with
    | some (k, rest) => ∃ c o, ext.parseAuthorizedKey (enc lines) = (k, c, o, enc rest, none)
    | none => (ext.parseAuthorizedKey (enc lines)).2.2.2.2 ≠ none
  empty : ∀ lines, enc lines = [] → Dtail.parseAuthorizedKey keyOf lines = none

theorem keysG_model (ext : Ext) (keyOf : Bytes → Option Key) (enc : List Bytes → Bytes) (hc : Contract ext keyOf enc) :
    ∀ (n : Nat) (lines : List Bytes), keysG ext n (enc lines) = collectKeys keyOf n lines := by
  intro n
  induction n with
  | zero => intro lines; rfl
  | succ n ih =>
    intro lines
    have hp := hc.parse lines
    rw [collectKeys]
    by_cases he : enc lines = []
    · rw [keysG, if_pos he, hc.empty lines he]
    · rw [keysG_succ ext n _ he]
      cases hm : Dtail.parseAuthorizedKey keyOf lines with
      | none => rw [hm] at hp; exact if_neg hp
      | some kr =>
        rw [hm] at hp
        obtain ⟨c, o, hx⟩ := hp
        rw [hx, if_pos rfl, ih]

end Dtail.GenKeys
