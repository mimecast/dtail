/-
Tie G for the client's message reassembly: `baseHandler.Write`, `handleMessage`, `handleHiddenMessage` of
internal/clients/handlers/basehandler.go as translated from the working tree on this run (`Generated/Code.lean`, namespace
`Gen.Client`).  What `dlog.Client.Raw` prints, what `SendMessage` is started with and each `Shutdown` are kept in the receiver.
The theorems say that `Write` is the model's `clientFeed` (`Model/Wire.lean`): the same receive buffer, the messages that are
not hidden printed in order, and the close handshake answered once per `.syn close connection` message.
-/
import DtailModel.Generated.Code
import DtailModel.Lemmas.GoRT
import DtailModel.Lemmas.Wire
namespace Dtail.GenClient
open Dtail Dtail.Go Dtail.Gen.Client

/-- a message asks for the close handshake -/
def isSyn (m : Bytes) : Bool := hasPrefix lit_0 m

def onMessage (h : baseHandler) (m : Bytes) : baseHandler :=
  if isHidden m then
    (if isSyn m then { h with sent := h.sent ++ [lit_1], shutdowns := h.shutdowns ++ [()] } else h)
  else { h with printed := h.printed ++ [m] }

/-- Go's `len(message) > 0 && message[0] == '.'` is the model's `isHidden`, and the index is in range whenever it is read -/
theorem hidden_test (m : GoString) :
    (!(decide ((GoLen.len m : Int) > 0)) || goInRange m 0) = true ∧
    (decide ((GoLen.len m : Int) > 0) && ((GoIndex.idx m (0 : Int) : UInt8) == 46)) = isHidden m := by
  cases m with
  | nil => exact ⟨rfl, rfl⟩
  | cons a rest =>
    rw [len_pos_cons, inRange_of_len (a :: rest) 0 (Int.le_refl 0) (Int.natCast_pos.2 (Nat.succ_pos rest.length))]
    exact ⟨rfl, by simp [isHidden, GoIndex.idx, DOT]; rfl⟩

/-- `handleMessage` never indexes an empty message, hides what starts with '.', prints the rest -/
theorem handleMessage_spec (ext : Ext) (h : baseHandler) (m : Bytes) :
    baseHandler.handleMessage ext h m = Outcome.ok (onMessage h m) := by
  unfold baseHandler.handleMessage onMessage baseHandler.handleHiddenMessage isSyn
  rw [if_pos (hidden_test m).1, (hidden_test m).2]
  cases isHidden m
  · rfl
  · simp only [if_true]

def onByte (h : baseHandler) (b : UInt8) : baseHandler :=
  if b = NL then { onMessage { h with receiveBuf := h.receiveBuf ++ [b] } (h.receiveBuf ++ [b]) with receiveBuf := [] }
  else if b = DELIM then { onMessage h h.receiveBuf with receiveBuf := [] }
  else { h with receiveBuf := h.receiveBuf ++ [b] }

theorem goRange_acc {α ρ σ : Type} (l : List α) (s0 : σ) (body : σ → α → LoopStep ρ σ) (after : σ → ρ)
    (step : σ → α → σ) (h : ∀ s x, body s x = .next (step s x)) :
    goRange l s0 body after = after (l.foldl step s0) := goRange_fold l s0 body after step h

/-- **`Write` is a fold of `onByte` over the bytes**: it never panics and reports all bytes as taken -/
theorem Write_fold (ext : Ext) (h : baseHandler) (p : Bytes) :
    baseHandler.Write ext h p = Outcome.ok (p.foldl onByte h, (p.length : Int), none) := by
  unfold baseHandler.Write
  rw [goRange_acc p h _ _ onByte]
  · rfl
  · intro s b
    unfold onByte
    by_cases h1 : b = NL
    · subst h1
      rw [if_pos (by decide : ((NL : UInt8) == 10) = true), if_pos rfl]
      simp only [handleMessage_spec]
    · rw [if_neg (fun h : (b == 10) = true => h1 (eq_of_beq h)), if_neg h1]
      by_cases h2 : b = DELIM
      · subst h2
        rw [if_pos (by decide : ((DELIM : UInt8) == 172) = true), if_pos rfl]
        simp only [handleMessage_spec]
      · rw [if_neg (fun h : (b == 172) = true => h2 (eq_of_beq h)), if_neg h2]

/-- the messages already dispatched ride along -/
theorem feed_prefix (p : Bytes) (buf : Bytes) (done : List Bytes) :
    clientFeed ⟨buf, done⟩ p = ⟨(clientFeed ⟨buf, []⟩ p).buf, done ++ (clientFeed ⟨buf, []⟩ p).msgs⟩ := by
  refine List.foldl_rel (r := fun s t : CS => s = ⟨t.buf, done ++ t.msgs⟩) (by rw [List.append_nil]) fun b _ s t h => ?_
  subst h
  by_cases h1 : b = NL
  · rw [h1, clientByte_nl, clientByte_nl, List.append_assoc]
  · by_cases h2 : b = DELIM
    · rw [h2, clientByte_delim, clientByte_delim, List.append_assoc]
    · rw [clientByte_other _ b h1 h2, clientByte_other _ b h1 h2]

/-- the messages a user sees, and the close requests among the hidden ones -/
def shown (msgs : List Bytes) : List Bytes := msgs.filter (fun m => !isHidden m)
def syns (msgs : List Bytes) : List Bytes := msgs.filter (fun m => isHidden m && isSyn m)

theorem onMessage_obs (h : baseHandler) (m : Bytes) :
    (onMessage h m).receiveBuf = h.receiveBuf ∧ (onMessage h m).printed = h.printed ++ shown [m] ∧
    (onMessage h m).sent = h.sent ++ (syns [m]).map (fun _ => lit_1) ∧
    (onMessage h m).shutdowns.length = h.shutdowns.length + (syns [m]).length := by
  unfold onMessage shown syns
  cases hh : isHidden m <;> cases hs : isSyn m <;> simp [hh, hs]

/-- **the fold of `onByte` is the model's `clientFeed`**: same receive buffer; the messages that are not hidden printed in
    order; one answer and one shutdown per hidden `.syn close connection` message -/
theorem fold_refines (p : Bytes) : ∀ (h : baseHandler),
    (p.foldl onByte h).receiveBuf = (clientFeed ⟨h.receiveBuf, []⟩ p).buf ∧
    (p.foldl onByte h).printed = h.printed ++ shown (clientFeed ⟨h.receiveBuf, []⟩ p).msgs ∧
    (p.foldl onByte h).sent = h.sent ++ (syns (clientFeed ⟨h.receiveBuf, []⟩ p).msgs).map (fun _ => lit_1) ∧
    (p.foldl onByte h).shutdowns.length = h.shutdowns.length + (syns (clientFeed ⟨h.receiveBuf, []⟩ p).msgs).length := by
  intro h
  -- the handler `k` after some bytes against the model's client `c` after the same bytes
  let R (k : baseHandler) (c : CS) : Prop :=
    k.receiveBuf = c.buf ∧ k.printed = h.printed ++ shown c.msgs ∧
    k.sent = h.sent ++ (syns c.msgs).map (fun _ => lit_1) ∧ k.shutdowns.length = h.shutdowns.length + (syns c.msgs).length
  -- a message is dispatched on both sides (`k'` is `k` but for the receive buffer)
  have dispatch : ∀ (k k' : baseHandler) (c : CS) (m : Bytes), R k c →
      k'.printed = k.printed → k'.sent = k.sent → k'.shutdowns = k.shutdowns →
      R { onMessage k' m with receiveBuf := [] } ⟨[], c.msgs ++ [m]⟩ := by
    intro k k' c m ⟨_, r2, r3, r4⟩ e2 e3 e4
    obtain ⟨-, o2, o3, o4⟩ := onMessage_obs k' m
    refine ⟨rfl, ?_, ?_, ?_⟩
    · show (onMessage k' m).printed = _
      rw [o2, e2, r2, List.append_assoc]; simp only [shown, List.filter_append]
    · show (onMessage k' m).sent = _
      rw [o3, e3, r3, List.append_assoc]; simp only [syns, List.filter_append, List.map_append]
    · show (onMessage k' m).shutdowns.length = _
      rw [o4, e4, r4]; simp only [syns, List.filter_append, List.length_append, Nat.add_assoc]
  refine List.foldl_rel (r := R) ⟨rfl, by simp [shown], by simp [syns], by simp [syns]⟩ fun b _ k c r => ?_
  unfold onByte
  by_cases h1 : b = NL
  · rw [if_pos h1, h1, clientByte_nl, ← r.1]
    exact dispatch k _ c _ r rfl rfl rfl
  · by_cases h2 : b = DELIM
    · rw [if_neg h1, if_pos h2, h2, clientByte_delim, ← r.1]
      exact dispatch k _ c _ r rfl rfl rfl
    · rw [if_neg h1, if_neg h2, clientByte_other _ b h1 h2, ← r.1]
      exact ⟨rfl, r.2⟩

/-- **the translated `Write` is the model's client**: it takes all bytes, never panics, and leaves the handler with the
    model's receive buffer, having printed the model's visible messages in order and answered every close request once -/
theorem Write_refines (ext : Ext) (h : baseHandler) (p : Bytes) :
    ∃ h', baseHandler.Write ext h p = Outcome.ok (h', (p.length : Int), none) ∧
      h'.receiveBuf = (clientFeed ⟨h.receiveBuf, []⟩ p).buf ∧
      h'.printed = h.printed ++ shown (clientFeed ⟨h.receiveBuf, []⟩ p).msgs ∧
      h'.sent = h.sent ++ (syns (clientFeed ⟨h.receiveBuf, []⟩ p).msgs).map (fun _ => lit_1) ∧
      h'.shutdowns.length = h.shutdowns.length + (syns (clientFeed ⟨h.receiveBuf, []⟩ p).msgs).length :=
  ⟨_, Write_fold ext h p, fold_refines p h⟩

end Dtail.GenClient
