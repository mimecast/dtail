/-
Liveness side of the aggregator transition system: which readers' channels the aggregator
can hold, and deadlock freedom (some step is enabled in every state that satisfies the invariants,
while the aggregator has not finished and there is a file).
-/
import DtailModel.Lemmas.Aggregator
namespace Dtail

def RegL (l : List Rd) (r : Nat) : Prop := ∃ d, l[r]? = some d ∧ d.st ≠ .notRegistered

theorem regL_set {l : List Rd} {r : Nat} {v : Rd} (hr : r < l.length) (hv : v.st ≠ .notRegistered) (r' : Nat) :
    RegL (l.set r v) r' ↔ r' = r ∨ RegL l r' := by
  unfold RegL
  rw [List.getElem?_set]
  by_cases e : r = r'
  · subst e; simp [hr, hv]
  · simp [e, Ne.symm e]

/-- The invariant deadlock freedom needs: the current channel, the queue of next channels and the channels a rotation goroutine
    is putting back (`limbo`) belong to registered, unfinished readers (`RegL`), and without a current channel nothing is in limbo
    and every such reader is queued. -/
structure AggInv2 (s : Agg) : Prop where
  cur : ∀ r, s.current = some r → RegL s.rds r
  queued : ∀ r, r ∈ s.nextQ → RegL s.rds r
  limbo : ∀ r, r ∈ s.limbo → RegL s.rds r
  noCur : s.current = none → s.limbo = [] ∧ ∀ r, RegL s.rds r → r ∈ s.nextQ

theorem aggInit_inv2 (sizes : List Nat) : AggInv2 (aggInit sizes) :=
  ⟨nofun, nofun, nofun, fun _ => ⟨rfl, fun _ ⟨_, hd, hne⟩ => absurd (eq_of_getElem?_replicate hd ▸ rfl) hne⟩⟩

theorem AggInv2.set_rd {s : Agg} (h : AggInv2 s) {r : Nat} (v : Rd) (hr : RegL s.rds r) (hv : v.st ≠ .notRegistered) :
    AggInv2 { s with rds := s.rds.set r v } := by
  have hlt : r < s.rds.length := hr.elim fun _ hd => lt_length_of_getElem? hd.1
  -- `r` was registered already
  have hreg (x : Nat) : RegL (s.rds.set r v) x ↔ RegL s.rds x :=
    (regL_set hlt hv x).trans ⟨fun h => h.elim (· ▸ hr) id, .inr⟩
  exact {
    cur := fun x hx => (hreg x).2 (h.cur x hx)
    queued := fun x hx => (hreg x).2 (h.queued x hx)
    limbo := fun x hx => (hreg x).2 (h.limbo x hx)
    noCur := fun h0 => ⟨(h.noCur h0).1, fun x hx => (h.noCur h0).2 x ((hreg x).1 hx)⟩ }

theorem aggStep_inv2 (s s' : Agg) (l : ALabel) (h : AggInv2 s) (hs : aggStep s l = some s') : AggInv2 s' := by
  cases aggStep_iff.1 hs with
  | @register r p c hr hcap =>
    -- `r` is the one reader that becomes registered, and it is queued
    have hreg := regL_set (v := ⟨.open_, p, c⟩) (lt_length_of_getElem? hr) nofun
    exact {
      cur := fun x hx => (hreg x).2 (.inr (h.cur x hx))
      queued := fun x hx => (hreg x).2 ((List.mem_append.1 hx).symm.imp List.mem_singleton.1 (h.queued x))
      limbo := fun x hx => (hreg x).2 (.inr (h.limbo x hx))
      noCur := fun hnone => ⟨(h.noCur hnone).1, fun x hx =>
        List.mem_append.2 (((hreg x).1 hx).symm.imp ((h.noCur hnone).2 x) List.mem_singleton.2)⟩ }
  | push hr | close hr => exact h.set_rd _ ⟨_, hr, nofun⟩ nofun
  | @take r d hcur hd =>
    obtain ⟨d', hd', hne'⟩ := h.cur r hcur
    cases hd.symm.trans hd'
    exact h.set_rd _ ⟨d, hd, hne'⟩ hne'
  | first _ hq | closedSwitch _ hq =>
    exact {
      cur := fun x hx => h.queued x (by cases hx; rw [hq]; exact List.mem_cons_self)
      queued := fun x hx => h.queued x (by rw [hq]; exact List.mem_cons_of_mem _ hx)
      limbo := h.limbo
      noCur := nofun }
  | closedDone => exact ⟨h.cur, h.queued, h.limbo, h.noCur⟩
  | @rotate r _ _ _ hcur hq =>
    exact {
      cur := fun x hx => h.queued x (by cases hx; rw [hq]; exact List.mem_cons_self)
      queued := fun x hx => h.queued x (by rw [hq]; exact List.mem_cons_of_mem _ hx)
      limbo := fun x hx => (List.mem_append.1 hx).elim (h.limbo x) fun hx => h.cur x (List.mem_singleton.1 hx ▸ hcur)
      noCur := nofun }
  | @requeue r hm =>
    exact {
      cur := h.cur
      queued := fun x hx => (List.mem_append.1 hx).elim (h.queued x) fun hx => h.limbo x (List.mem_singleton.1 hx ▸ hm)
      limbo := fun x hx => h.limbo x (List.mem_of_mem_erase hx)
      noCur := fun hnone => nomatch (h.noCur hnone).1 ▸ hm }

theorem aggRun_inv2 (sizes : List Nat) (history : List ALabel) (s : Agg)
    (h : aggRun (aggInit sizes) history = some s) : AggInv2 s :=
  aggIsRun.inv aggStep_inv2 history _ s (aggInit_inv2 sizes) h

/-- `hcap`, `hcc`: the capacities of the two kinds of channel are constants read off the source (`Facts.nextLinesChCap`,
    `Facts.linesCap`); that they are positive is stated where the property is, as an obligation on the source, and handed in
    from there. -/
theorem agg_step_enabled (s : Agg) (i1 : AggInv s) (i2 : AggInv2 s) (hne : s.sizes ≠ [])
    (hnd : s.done = false) (hcap : 0 < nextCap) (hcc : 0 < chanCap) :
    ∃ l s', aggStep s l = some s' := by
  cases hcur : s.current with
  | none =>
    obtain ⟨hl0, hall⟩ := i2.noCur hcur
    cases hq : s.nextQ with
    | cons r rest => exact ⟨_, _, aggStep_iff.2 (.first hcur hq hnd)⟩
    | nil =>
      -- nobody has registered: reader 0 can
      have hlen : 0 < s.rds.length := by rw [i1.len]; exact List.length_pos_iff.2 hne
      have hd : s.rds[0]? = some s.rds[0] := List.getElem?_eq_getElem hlen
      rcases hd0 : s.rds[0] with ⟨st, p, c⟩
      rw [hd0] at hd
      cases st with
      | notRegistered => exact ⟨_, _, aggStep_iff.2 (.register hd (by rw [hq]; exact hcap))⟩
      | open_ | closed => exact absurd (hall 0 ⟨_, hd, nofun⟩) (by rw [hq]; exact List.not_mem_nil)
  | some r =>
    obtain ⟨d, hd, hreg⟩ := i2.cur r hcur
    have hrlt : r < s.sizes.length := i1.len ▸ lt_length_of_getElem? hd
    have hn : s.sizes[r]? = some s.sizes[r] := List.getElem?_eq_getElem hrlt
    have hb := i1.bounds r d _ hd hn
    by_cases hlt : d.consumed < d.pushed
    · exact ⟨_, _, aggStep_iff.2 (.take hcur hd hlt hnd)⟩
    · have hcp : d.consumed = d.pushed := Nat.le_antisymm hb.1 (Nat.le_of_not_lt hlt)
      obtain ⟨st, p, c⟩ := d
      cases st with
      | notRegistered => exact absurd rfl hreg
      | closed =>
        cases hq : s.nextQ with
        | nil => exact ⟨_, _, aggStep_iff.2 (.closedDone hcur hq hd rfl hcp hnd)⟩
        | cons r' rest => exact ⟨_, _, aggStep_iff.2 (.closedSwitch hcur hq hd rfl hcp hnd)⟩
      | open_ =>
        -- the current channel is empty: its reader can write the next line into it, or close it at the end of the file
        obtain rfl : c = p := hcp
        by_cases hpn : c < s.sizes[r]
        · exact ⟨_, _, aggStep_iff.2 (.push hd hn hpn (by rw [Nat.sub_self]; exact hcc))⟩
        · have hend : s.sizes[r] = c := Nat.le_antisymm (Nat.le_of_not_lt hpn) hb.2.1
          exact ⟨_, _, aggStep_iff.2 (.close hd (hn.trans (congrArg some hend)))⟩

end Dtail
