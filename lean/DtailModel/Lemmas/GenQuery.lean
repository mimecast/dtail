/-
The query parser of internal/mapr, `tokenize` to `NewQuery` (`Gen.MaprQuery`): every index and slice expression is guarded, and
where the Go runtime would panic the translated function returns `Outcome.panic`; the theorems say that this is never returned.
The `if`s are gone through one level at a time with `ite_all` (`split` or `simp` through an `else if` chain costs exponentially
in its depth); a guard is discharged by `guard_tac at h ⊢`, with `h` the test in front of it.
-/
import DtailModel.Generated.Code
import DtailModel.Lemmas.GoRT
import DtailModel.Lemmas.LoopRules
namespace Dtail.GenQuery
open Dtail Dtail.Go Dtail.Gen.MaprQuery

def ConsumeOk (tokens : List token) (r : Outcome (List token × List token)) : Prop :=
  ∃ rest consumed, r = .ok (rest, consumed) ∧ rest.length ≤ tokens.length ∧ consumed.length ≤ tokens.length

theorem tokensConsume_ok (ext : Ext) (tokens : List token) : ConsumeOk tokens (tokensConsume ext tokens) := by
  unfold tokensConsume
  -- invariant: the tokens consumed and those still to come are together no more than all of them, and an index still to come
  -- is an index of `tokens` (a keyword is sliced off there)
  refine goRange_inv (ConsumeOk tokens)
    (fun consumed rest => consumed.length + rest.length ≤ tokens.length ∧ ∀ p ∈ rest, 0 ≤ p.1 ∧ p.1 < (tokens.length : Int))
    ⟨by simp [length_goEnum, GoZero.zero], fun p => mem_goEnum tokens p.1 p.2⟩ ?_ ?_
  · rintro consumed ⟨i, t⟩ xs ⟨hlen, hmem⟩
    have hi := hmem (i, t) List.mem_cons_self
    rw [List.length_cons] at hlen
    have hnext : ∀ c : List token, c.length ≤ consumed.length + 1 →
        c.length + xs.length ≤ tokens.length ∧ ∀ p ∈ xs, 0 ≤ p.1 ∧ p.1 < (tokens.length : Int) :=
      fun c hc => ⟨by omega, fun p hp => hmem p (List.mem_cons_of_mem _ hp)⟩
    refine ite_all _ (fun _ => ?_) fun _ => ?_
    · exact guard_rule _ (by guard_tac) ⟨_, _, rfl, by rw [List.length_drop]; omega, by omega⟩
    refine ite_all _ (fun _ => hnext _ (by omega)) fun _ => ?_
    -- `t.str[0]` and `t.str[length-1]` are only evaluated behind `length > 1`
    refine guard_rule _ (by guard_tac) ?_
    refine ite_all _ (fun hq => ?_) fun _ => hnext _ (by simp)
    exact guard_rule _ (by guard_tac at hq ⊢) (hnext _ (by simp))
  · rintro consumed ⟨hlen, _⟩
    exact ⟨_, _, rfl, by simp [GoZero.zero], by simpa using hlen⟩

theorem tokensConsumeStr_ok (ext : Ext) (tokens : List token) :
    ∃ rest strs, tokensConsumeStr ext tokens = .ok (rest, strs) ∧ rest.length ≤ tokens.length := by
  unfold tokensConsumeStr
  obtain ⟨rest, consumed, he, hl, _⟩ := tokensConsume_ok ext tokens
  rw [he]
  exact ⟨rest, _, goRange_fold _ _ _ _ (fun strings (t : token) => strings ++ [t.str]) (fun _ _ => rfl), hl⟩

theorem tokensConsumeOptional_ok (ext : Ext) (tokens : List token) (w : GoString) :
    tokensConsumeOptional ext tokens w = .ok tokens ∨ tokensConsumeOptional ext tokens w = .ok (tokens.drop 1) := by
  unfold tokensConsumeOptional
  refine ite_all (fun r => r = Outcome.ok tokens ∨ r = Outcome.ok (tokens.drop 1)) (fun _ => .inl rfl) fun h0 => ?_
  rw [if_pos (by guard_tac at h0 ⊢)]
  refine ite_all (fun r => r = Outcome.ok tokens ∨ r = Outcome.ok (tokens.drop 1)) (fun _ => ?_) fun _ => .inl rfl
  rw [if_pos (by guard_tac at h0 ⊢)]
  exact .inr rfl

theorem tokensConsumeOptional_len (ext : Ext) (tokens : List token) (w : GoString) :
    ∃ rest, tokensConsumeOptional ext tokens w = .ok rest ∧ rest.length ≤ tokens.length := by
  rcases tokensConsumeOptional_ok ext tokens w with h | h
  · exact ⟨_, h, Nat.le_refl _⟩
  · exact ⟨_, h, by simp⟩

theorem makeSelectConditions_parse_ok (ext : Ext) (t : token) : IsOk (makeSelectConditions_parse ext t) := by
  unfold makeSelectConditions_parse
  refine ite_all _ (fun _ => ⟨_, rfl⟩) fun _ => ?_
  -- `agg(field)`: each of the two splits is indexed only after its length has been found to be 2
  refine ite_all _ (fun _ => ⟨_, rfl⟩) fun ha => ?_
  rw [if_pos (by guard_tac at ha ⊢), if_pos (by guard_tac at ha ⊢)]
  refine ite_all _ (fun _ => ⟨_, rfl⟩) fun hb => ?_
  rw [if_pos (by guard_tac at hb ⊢)]
  repeat refine ite_all _ (fun _ => ⟨_, rfl⟩) fun _ => ?_
  exact ⟨_, rfl⟩

theorem makeSelectConditions_ok (ext : Ext) (tokens : List token) : IsOk (makeSelectConditions ext tokens) := by
  unfold makeSelectConditions
  refine goRange_inv IsOk (fun _ _ => True) trivial (fun sel t _ _ => ?_) fun _ _ => ⟨_, rfl⟩
  obtain ⟨v, hv⟩ := makeSelectConditions_parse_ok ext t
  rw [hv]
  exact ite_all _ (fun _ => ⟨_, rfl⟩) fun _ => trivial

def FillOk (tokens : List token) (r : Outcome (whereCondition × List token × GoErr)) : Prop :=
  ∃ wc rest err, r = .ok (wc, rest, err) ∧ (err = none → rest = tokens.drop 3)

theorem FillOk_ok (tokens : List token) (wc : whereCondition) (rest : List token) (err : GoErr) :
    FillOk tokens (.ok (wc, rest, err)) ↔ (err = none → rest = tokens.drop 3) :=
  ⟨fun ⟨_, _, _, h, hr⟩ => by cases h; exact hr, fun h => ⟨_, _, _, rfl, h⟩⟩

theorem fill_ok (ext : Ext) (wc : whereCondition) (tokens : List token) (h3 : 3 ≤ tokens.length) :
    FillOk tokens (whereCondition.fill ext wc tokens) := by
  unfold whereCondition.fill
  have g0 : goInRange tokens 0 = true := by guard_tac
  have g2 : goInRange tokens 2 = true := by guard_tac
  have gs : goSliceOk tokens 3 (GoLen.len tokens) = true := by guard_tac
  simp [g0, g2, gs, apply_ite (FillOk tokens), FillOk_ok]

def ParseOk {γ : Type} (tokens : List token) (r : Outcome (γ × List token × GoErr)) : Prop :=
  ∃ c rest err, r = .ok (c, rest, err) ∧ (err = none → rest.length < tokens.length)

theorem ParseOk_err {γ : Type} (tokens : List token) (c : γ) (rest : List token) {err : GoErr} (h : (err != none) = true) :
    ParseOk tokens (.ok (c, rest, err)) :=
  ⟨_, _, _, rfl, fun he => by simp [he] at h⟩

/-- the `match` is what `dsimp only` leaves of each arm of `makeWhereConditions_parse` once its operation is set -/
theorem fill_arm (ext : Ext) (wc : whereCondition) (tokens : List token) (h3 : 3 ≤ tokens.length) :
    ParseOk tokens (match whereCondition.fill ext wc tokens with
      | Outcome.ok o => Outcome.ok (o.1, o.2.1, o.2.2)
      | _ => Outcome.panic "panic in whereCondition.fill") := by
  obtain ⟨w, r, e, he, hr⟩ := fill_ok ext wc tokens h3
  rw [he]
  exact ⟨_, _, _, rfl, fun h => by rw [hr h, List.length_drop]; omega⟩

theorem makeWhereConditions_parse_ok (ext : Ext) (tokens : List token) : ParseOk tokens (makeWhereConditions_parse ext tokens) := by
  unfold makeWhereConditions_parse
  dsimp only
  refine ite_all _ (fun _ => ⟨_, _, _, rfl, nofun⟩) fun h0 => ?_
  have h3 : 3 ≤ tokens.length := by guard_tac at h0 ⊢
  rw [if_pos (by guard_tac)]
  repeat refine ite_all _ (fun _ => fill_arm ext _ tokens h3) fun _ => ?_
  exact ⟨_, _, _, rfl, nofun⟩

theorem makeWhereConditions_ok (ext : Ext) (tokens : List token) (hf : tokens.length < ext.fuel) :
    IsOk (makeWhereConditions ext tokens) := by
  unfold makeWhereConditions
  refine goWhile_measure IsOk (fun s => s.2.1.length) hf ?_ fun _ => ⟨_, rfl⟩
  rintro ⟨err, toks, wh⟩ _ _
  dsimp only
  obtain ⟨c, rest, e, he, hlen⟩ := makeWhereConditions_parse_ok ext toks
  rw [he]
  refine ite_all _ (fun _ => ⟨_, rfl⟩) fun hne => ?_
  obtain ⟨rest', ho, hl⟩ := tokensConsumeOptional_len ext rest (b!"and")
  rw [ho]
  exact Nat.lt_of_le_of_lt hl (hlen (by simpa using hne))

def InitOk (tokens : List token) (r : Outcome (setCondition × GoErr)) : Prop :=
  ∃ sc err, r = .ok (sc, err) ∧ (err = none → 3 ≤ tokens.length)

theorem initSetConditions_ok (ext : Ext) (sc : setCondition) (tokens : List token) : InitOk tokens (initSetConditions ext sc tokens) := by
  unfold initSetConditions
  refine ite_all _ (fun _ => ⟨_, _, rfl, nofun⟩) fun h0 => ?_
  have h3 : 3 ≤ tokens.length := by guard_tac at h0 ⊢
  have g0 : goInRange tokens 0 = true := by guard_tac
  have g1 : goInRange tokens 1 = true := by guard_tac
  have g2 : goInRange tokens 2 = true := by guard_tac
  simp only [g0, g1, g2, if_true]
  repeat refine ite_all _ (fun _ => ⟨_, _, rfl, fun _ => h3⟩) fun _ => ?_
  exact ⟨_, _, rfl, fun _ => h3⟩

theorem makeSetConditions_parse_ok (ext : Ext) (tokens : List token) : ParseOk tokens (makeSetConditions_parse ext tokens) := by
  unfold makeSetConditions_parse
  dsimp only
  obtain ⟨sc, e, he, h3e⟩ := initSetConditions_ok ext {} tokens
  rw [he]
  refine ite_all _ (ParseOk_err tokens _ _) fun hne => ?_
  have h3 : 3 ≤ tokens.length := h3e (by simpa using hne)
  have g2 : goInRange tokens 2 = true := by guard_tac
  have gs : goSliceOk tokens 3 (GoLen.len tokens) = true := by guard_tac
  simp only [g2, gs, if_true]
  have hdrop : ∀ sc : setCondition, ParseOk tokens (.ok (sc, List.drop (Int.toNat 3) tokens, none)) :=
    fun _ => ⟨_, _, _, rfl, fun _ => by rw [List.length_drop, show Int.toNat 3 = 3 from rfl]; omega⟩
  -- the right side is a field, a function stack (which `NewFunctionStack` may refuse) or a number
  refine ite_all _ (fun _ => hdrop _) fun _ => ?_
  refine ite_all _ (fun _ => ?_) fun _ => ite_all _ (fun _ => hdrop _) fun _ => hdrop _
  exact ite_all _ (ParseOk_err tokens _ _) fun _ => hdrop _

theorem makeSetConditions_ok (ext : Ext) (tokens : List token) (hf : tokens.length < ext.fuel) :
    IsOk (makeSetConditions ext tokens) := by
  unfold makeSetConditions
  refine goWhile_measure IsOk (fun s => s.2.2.length) hf ?_ fun _ => ⟨_, rfl⟩
  rintro ⟨err, st, toks⟩ _ _
  dsimp only
  obtain ⟨c, rest, e, he, hlen⟩ := makeSetConditions_parse_ok ext toks
  rw [he]
  refine ite_all _ (fun _ => ⟨_, rfl⟩) fun hne => ?_
  obtain ⟨rest', ho, hl⟩ := tokensConsumeOptional_len ext rest (b!",")
  rw [ho]
  exact Nat.lt_of_le_of_lt hl (hlen (by simpa using hne))

theorem parseTokens_ok (ext : Ext) (q : Query) (tokens : List token) (hf : tokens.length < ext.fuel) :
    IsOk (Query.parseTokens ext q tokens) := by
  unfold Query.parseTokens
  refine goWhile_measure IsOk (fun s => s.2.2.2.length) hf ?_ fun _ => ⟨_, rfl⟩
  rintro ⟨err, found, q, toks⟩ hfuel hc
  dsimp only at hfuel hc ⊢
  have g0 : goInRange toks 0 = true := by guard_tac at hc ⊢
  have gs : goSliceOk toks 1 (GoLen.len toks) = true := by guard_tac at hc ⊢
  -- a clause drops its keyword, and what a consume function leaves is no longer than what it was given: a round that goes on
  -- has fewer tokens
  have hd : (List.drop (Int.toNat 1) toks).length < toks.length := by rw [List.length_drop]; guard_tac at hc ⊢
  obtain ⟨rest, fnd, hcns, hrest, hfnd⟩ := tokensConsume_ok ext (List.drop (Int.toNat 1) toks)
  replace hrest : rest.length < toks.length := Nat.lt_of_le_of_lt hrest hd
  have optional := tokensConsumeOptional_len ext (List.drop (Int.toNat 1) toks) (b!"by")
  refine guard_rule _ g0 ?_
  refine ite_all _ (fun _ => ?_) fun _ => ?_  -- select
  · obtain ⟨vs, hvs⟩ := makeSelectConditions_ok ext fnd
    simp only [gs, if_true, hcns, hvs]
    exact ite_all _ (fun _ => ⟨_, rfl⟩) fun _ => hrest
  refine ite_all _ (fun _ => ?_) fun _ => ?_  -- from
  · simp only [gs, if_true, hcns]
    refine ite_all _ (fun _ => ⟨_, rfl⟩) fun h0 => ?_
    refine ite_all _ (fun _ => ⟨_, rfl⟩) fun _ => ?_
    exact guard_rule _ (by guard_tac at h0 ⊢) hrest
  refine ite_all _ (fun _ => ?_) fun _ => ?_  -- where
  · obtain ⟨vw, hvw⟩ := makeWhereConditions_ok ext fnd (by omega)
    simp only [gs, if_true, hcns, hvw]
    exact ite_all _ (fun _ => ⟨_, rfl⟩) fun _ => hrest
  refine ite_all _ (fun _ => ?_) fun _ => ?_  -- set
  · obtain ⟨vt, hvt⟩ := makeSetConditions_ok ext fnd (by omega)
    simp only [gs, if_true, hcns, hvt]
    exact ite_all _ (fun _ => ⟨_, rfl⟩) fun _ => hrest
  refine ite_all _ (fun _ => ?_) fun _ => ?_  -- group
  · obtain ⟨ro, hopt, hro⟩ := optional
    obtain ⟨rs, strs, hstr, hrs⟩ := tokensConsumeStr_ok ext ro
    simp only [gs, if_true, hopt, hstr]
    exact ite_all _ (fun _ => ⟨_, rfl⟩) fun _ => Nat.lt_of_le_of_lt (Nat.le_trans hrs hro) hd
  refine ite_all _ (fun _ => ?_) fun _ => ?_  -- rorder
  · obtain ⟨ro, hopt, hro⟩ := optional
    obtain ⟨rc, fc, hcc, hrc, -⟩ := tokensConsume_ok ext ro
    simp only [gs, if_true, hopt, hcc]
    refine ite_all _ (fun _ => ⟨_, rfl⟩) fun _ => ?_
    refine ite_all _ (fun _ => ⟨_, rfl⟩) fun h0 => ?_
    exact guard_rule _ (by guard_tac at h0 ⊢) (Nat.lt_of_le_of_lt (Nat.le_trans hrc hro) hd)
  refine ite_all _ (fun _ => ?_) fun _ => ?_  -- order
  · obtain ⟨ro, hopt, hro⟩ := optional
    obtain ⟨rc, fc, hcc, hrc, -⟩ := tokensConsume_ok ext ro
    simp only [gs, if_true, hopt, hcc]
    refine ite_all _ (fun _ => ⟨_, rfl⟩) fun _ => ?_
    refine ite_all _ (fun _ => ⟨_, rfl⟩) fun h0 => ?_
    exact guard_rule _ (by guard_tac at h0 ⊢) (Nat.lt_of_le_of_lt (Nat.le_trans hrc hro) hd)
  -- the remaining clauses consume their arguments and look at the first one or two of them
  simp only [gs, if_true, hcns]
  refine ite_all _ (fun _ => ?_) fun _ => ?_  -- interval
  · refine ite_all _ (fun h0 => ?_) fun _ => hrest
    refine guard_rule _ (by guard_tac at h0 ⊢) ?_
    exact ite_all _ (fun _ => ⟨_, rfl⟩) fun _ => hrest
  refine ite_all _ (fun _ => ?_) fun _ => ?_  -- limit
  · refine ite_all _ (fun _ => ⟨_, rfl⟩) fun h0 => ?_
    refine guard_rule _ (by guard_tac at h0 ⊢) ?_
    exact ite_all _ (fun _ => ⟨_, rfl⟩) fun _ => hrest
  refine ite_all _ (fun _ => ?_) fun _ => ?_  -- outfile
  · refine ite_all _ (fun h1 => ?_) fun _ => ?_
    · exact guard_rule _ (by guard_tac at h1 ⊢) hrest
    refine ite_all _ (fun h2 => ?_) fun _ => ⟨_, rfl⟩
    refine guard_rule _ (by guard_tac at h2 ⊢) ?_
    refine ite_all _ (fun _ => ?_) fun _ => ⟨_, rfl⟩
    exact guard_rule _ (by guard_tac at h2 ⊢) hrest
  refine ite_all _ (fun _ => ?_) fun _ => ?_  -- logformat
  · refine ite_all _ (fun _ => ⟨_, rfl⟩) fun h0 => ?_
    exact guard_rule _ (by guard_tac at h0 ⊢) hrest
  exact guard_rule _ g0 ⟨_, rfl⟩

theorem parse_ok (ext : Ext) (q : Query) (tokens : List token) (hf : tokens.length < ext.fuel) :
    IsOk (Query.parse ext q tokens) := by
  unfold Query.parse
  obtain ⟨v, hv⟩ := parseTokens_ok ext q tokens hf
  rw [hv]
  refine ite_all _ (fun _ => ⟨_, rfl⟩) fun _ => ?_
  refine ite_all _ (fun _ => ⟨_, rfl⟩) fun hsel => ?_
  have g0 : goInRange v.1.Select 0 = true := by guard_tac at hsel ⊢
  simp only [g0, if_true]
  -- the group key defaulted to the first selected field or given: either way the same loop looks for the order field among
  -- the selected ones
  refine ite_all _ (fun _ => ?_) fun _ => ?_ <;>
  refine ite_all _ (fun _ => ?_) fun _ => ⟨_, rfl⟩ <;>
  exact goRange_inv IsOk (fun _ _ => True) trivial
    (fun _ _ _ _ => ite_all _ (fun _ => ite_all IsOk (fun _ => ⟨_, rfl⟩) fun _ => ⟨_, rfl⟩) fun _ => trivial)
    fun _ _ => ite_all IsOk (fun _ => ⟨_, rfl⟩) fun _ => ⟨_, rfl⟩

/-- for every query text and every behaviour of `strconv.ParseFloat`, `strconv.Atoi` and `funcs.NewFunctionStack` (fields of
    `ext`) the parser returns a query or an error: no index or slice expression is out of range, and no loop runs out of
    fuel when there is more fuel than tokens -/
theorem NewQuery_ok (ext : Ext) (queryStr : GoString) (hf : (tokenize ext queryStr).length < ext.fuel) :
    IsOk (NewQuery ext queryStr) := by
  unfold NewQuery
  dsimp only
  refine ite_all _ (fun _ => ⟨_, rfl⟩) fun _ => ?_
  refine ite_all _ (fun _ => ?_) fun _ => ?_ <;>
  · obtain ⟨v, hv⟩ := parse_ok ext _ (tokenize ext queryStr) hf
    rw [hv]
    exact ⟨_, rfl⟩

theorem fieldsAux_length (fuel : Nat) : ∀ (s cur : Bytes),
    (fieldsAux fuel s cur).length ≤ s.length + (if cur = [] then 0 else 1) := by
  intro s cur
  fun_induction fieldsAux fuel s cur with
  | case5 fuel b rest cur k hk ih =>
    -- no white space here: the byte joins the field being read
    rw [if_neg (by simp)] at ih
    rw [List.length_cons]; split <;> omega
  | case6 fuel b rest cur k hk ih =>
    -- white space of `k` bytes ends the field being read
    rw [if_pos rfl, List.length_drop, List.length_cons] at ih
    rw [List.length_append]; split <;> simp <;> omega
  | _ => simp [*]

theorem fields_length (s : Bytes) : (fields s).length ≤ s.length := by
  simpa [fields] using fieldsAux_length (s.length + 1) s []

def partsWeight : List Bytes → Nat
  | [] => 0
  | p :: ps => p.length + 1 + partsWeight ps

theorem splitOnByte_weight (sep : UInt8) (s : Bytes) : partsWeight (splitOnByte sep s) = s.length + 1 := by
  fun_induction splitOnByte sep s <;> simp_all only [partsWeight, List.length_cons, List.length_nil] <;> omega

/-- the left side is the range loop of `tokenize`, copied from the generated text -/
theorem tokenize_loop (ext : Ext) : ∀ (l : List (Int × GoString)) (tokens : List token),
    (goRange l tokens
      (fun tokens (x : Int × GoString) =>
        if ((Int.tmod x.1 2) == 0) then
          let commasStripped := (List.map (fun b => if b == (44 : UInt8) then (32 : UInt8) else b) x.2)
          goRange (fields commasStripped) tokens
            (fun tokens tokenStr =>
              let token := ({ str := tokenStr, isBareword := true } : Dtail.Gen.MaprQuery.token)
              let tokens := (tokens ++ [token])
              LoopStep.next tokens)
            (fun tokens =>
              (LoopStep.next tokens : LoopStep (List token) (List token)))
        else
          let token := ({ str := x.2, isBareword := false } : Dtail.Gen.MaprQuery.token)
          let tokens := (tokens ++ [token])
          LoopStep.next tokens)
      (fun tokens => tokens)).length ≤ tokens.length + partsWeight (l.map (·.2)) := by
  intro l
  induction l with
  | nil => intro tokens; exact Nat.le_add_right _ _
  | cons x rest ih =>
    intro tokens
    rw [goRange_cons, List.map_cons, partsWeight]
    by_cases he : (Int.tmod x.1 2 == 0) = true
    · -- a part of even index lies outside the quotes: one token per field, and a text has no more fields than bytes
      rw [if_pos he, goRange_fold _ _ _ _ (fun ts t => ts ++ [({ str := t, isBareword := true } : token)]) fun _ _ => rfl]
      refine Nat.le_trans (ih _) ?_
      rw [foldl_snoc, List.length_append, List.length_map]
      have := fields_length (x.2.map fun b => if b == (44 : UInt8) then (32 : UInt8) else b)
      rw [List.length_map] at this
      omega
    · -- inside the quotes the part is one token
      rw [if_neg he]
      refine Nat.le_trans (ih _) ?_
      rw [List.length_append, List.length_singleton]
      omega

theorem tokenize_length (ext : Ext) (queryStr : GoString) : (tokenize ext queryStr).length ≤ queryStr.length + 1 := by
  have h := tokenize_loop ext (goEnum (splitOnByte (34 : UInt8) queryStr)) (GoZero.zero : List token)
  rw [map_snd_goEnum, splitOnByte_weight, show (GoZero.zero : List token).length = 0 from rfl, Nat.zero_add] at h
  exact h

theorem NewQuery_ok_text (ext : Ext) (queryStr : GoString) (hf : queryStr.length + 1 < ext.fuel) :
    IsOk (NewQuery ext queryStr) :=
  NewQuery_ok ext queryStr (Nat.lt_of_le_of_lt (tokenize_length ext queryStr) hf)

end Dtail.GenQuery
