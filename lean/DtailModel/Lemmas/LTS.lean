/-
What the four labelled transition systems of the development (session, aggregator, limiter, connection counter) have in
common.  Each model gives a step function `step : S → L → Option S` (`none`: the label is not enabled) and its own
`run`, the fold of `step` over a list of labels; `IsRun` says so, and holds of each by `rfl`.
-/
import DtailModel.Lemmas.ListFacts
namespace Dtail

/-- the states keep one record per command, reader or connection in a list: an index that has a record lies within it -/
theorem lt_length_of_getElem? {α : Type} {l : List α} {i : Nat} {a : α} (h : l[i]? = some a) : i < l.length :=
  (List.getElem?_eq_some_iff.1 h).1

structure IsRun {S L : Type} (step : S → L → Option S) (run : S → List L → Option S) : Prop where
  nil : ∀ s, run s [] = some s
  cons : ∀ s l rest, run s (l :: rest) = (step s l).bind fun s' => run s' rest

namespace IsRun
variable {S L : Type} {step : S → L → Option S} {run : S → List L → Option S}

theorem cons_some (h : IsRun step run) {s b : S} {l : L} {rest : List L} (hr : run s (l :: rest) = some b) :
    ∃ s', step s l = some s' ∧ run s' rest = some b := by
  rw [h.cons] at hr
  exact Option.bind_eq_some_iff.1 hr

theorem append (h : IsRun step run) (s : S) (a b : List L) :
    run s (a ++ b) = (run s a).bind fun s' => run s' b := by
  induction a generalizing s with
  | nil => rw [List.nil_append, h.nil]; rfl
  | cons l rest ih =>
    rw [List.cons_append, h.cons, h.cons]
    cases step s l with
    | none => rfl
    | some s' => exact ih s'

theorem inv (h : IsRun step run) {P : S → Prop} (hstep : ∀ s s' l, P s → step s l = some s' → P s')
    (hist : List L) (a b : S) (ha : P a) (hr : run a hist = some b) : P b := by
  induction hist generalizing a with
  | nil => rw [h.nil] at hr; cases hr; exact ha
  | cons l rest ih =>
    obtain ⟨a', hs, hr⟩ := h.cons_some hr
    exact ih a' (hstep a a' l ha hs) hr

theorem length_le (h : IsRun step run) {P : S → Prop} (hstep : ∀ s s' l, P s → step s l = some s' → P s')
    (μ : S → Nat) (hdec : ∀ s s' l, P s → step s l = some s' → μ s' < μ s)
    (hist : List L) (a b : S) (ha : P a) (hr : run a hist = some b) : μ b + hist.length ≤ μ a := by
  induction hist generalizing a with
  | nil => rw [h.nil] at hr; cases hr; exact Nat.le_refl _
  | cons l rest ih =>
    obtain ⟨a', hs, hr⟩ := h.cons_some hr
    have := ih a' (hstep a a' l ha hs) hr
    have := hdec a a' l ha hs
    rw [List.length_cons]; omega

end IsRun

end Dtail
