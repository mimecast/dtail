/-
internal/discovery/discovery.go (`Gen.Discovery`): `filterList`, `dedupList`, `shuffleList` and `ServerList` compute the model's
`List.filter`, `dedup`, `shuffle` and `serverList` (Model/Discovery.lean), on which the theorems of C18 are stated.  Trusted
parameters: `serverListFromModule` (reflection + file / comma sources) is the list `ext.strList "serverListFromModule"`;
`(*regexp.Regexp).MatchString` is `ext.reMatchRaw`; the random source is the list of numbers its `Intn` calls return.
-/
import DtailModel.Generated.Code
import DtailModel.Lemmas.GoRT
import DtailModel.Model.Discovery
namespace Dtail.GenDiscovery
open Dtail Dtail.Go Dtail.Gen.Discovery

theorem filter_loop (p : GoString → Bool) (servers acc : List GoString) (after : List GoString → Discovery × List GoString) :
    goRange servers acc
      (fun filtered server => if p server = true then LoopStep.next (filtered ++ [server]) else LoopStep.next filtered) after
      = after (acc ++ servers.filter p) := by
  induction servers generalizing acc with
  | nil => simp [goRange]
  | cons s rest ih => rw [goRange_cons]; by_cases hp : p s = true <;> simp [hp, ih]

theorem filterList_refines (ext : Ext) (d : Discovery) (servers : List GoString) :
    Discovery.filterList ext d servers = (d, servers.filter (ext.reMatchRaw d.regex)) := by
  unfold Discovery.filterList
  simpa [GoZero.zero] using filter_loop (ext.reMatchRaw d.regex) servers [] (fun filtered => (d, filtered))

def Tracks (m : GoMap GoString Unit) (seen : List GoString) : Prop := ∀ s, (m.get? s).isSome = true ↔ s ∈ seen

theorem tracks_set (m : GoMap GoString Unit) (seen : List GoString) (s : GoString) (h : Tracks m seen) :
    Tracks (m.set s ()) (s :: seen) := by
  intro t
  rw [GoMap.isSome_get?_set, Bool.or_eq_true, beq_iff_eq, h t, List.mem_cons]

theorem dedupList_refines (ext : Ext) (d : Discovery) (servers : List GoString) :
    Discovery.dedupList ext d servers = (d, dedup [] servers) := by
  unfold Discovery.dedupList
  refine goRange_inv (· = (d, dedup [] servers))
    (fun st rest => ∃ seen, Tracks st.2 seen ∧ st.1 ++ dedup seen rest = dedup [] servers)
    ⟨[], fun s => by simp [GoZero.zero, GoMap.get?], rfl⟩ ?_ ?_
  · rintro ⟨kept, m⟩ s rest ⟨seen, hm, hk⟩
    dsimp only
    rw [GoMap.idxOk_snd]
    by_cases hs : s ∈ seen
    · rw [(hm s).2 hs]
      exact ⟨seen, hm, by simpa [dedup, hs] using hk⟩
    · rw [Bool.eq_false_iff.2 (mt (hm s).1 hs)]
      exact ⟨s :: seen, tracks_set m seen s hm, by simpa [dedup, hs] using hk⟩
  · rintro ⟨kept, m⟩ ⟨seen, _, hk⟩
    simpa [dedup] using hk

/-- the body of the range loop of `shuffleList`, on the projections of its state: the random source, the servers still to
    draw from, the result array -/
def shuffleBody (st : GoRand × List GoString × List GoString) (i : Int) :
    LoopStep (Discovery × List GoString) (GoRand × List GoString × List GoString) :=
  let (t1, r) := goIntn st.1 (GoLen.len st.2.1)
  LoopStep.next (r, (List.take (Int.toNat t1) st.2.1) ++ (List.drop (Int.toNat (t1 + 1)) st.2.1),
    GoIndex.upd st.2.2 i (GoIndex.idx st.2.1 t1))

/-- after `pre.length` rounds the result array is the servers picked so far followed by empty slots, and the list still to
    be drawn from is the model's -/
theorem shuffle_loop (d : Discovery) (rs : List Nat) (l pre out : List GoString) (n : Int)
    (hn : n = (pre.length : Int) + (l.length : Int)) (hv : validIdx l.length rs = true) (hs : shuffle l rs = some out) :
    goRange (goUpTo (pre.length : Int) n)
      ((⟨rs.map fun (n : Nat) => (n : Int)⟩ : GoRand), l, pre ++ List.replicate l.length ([] : GoString))
      shuffleBody (fun st => (d, st.2.2)) = (d, pre ++ out) := by
  induction rs generalizing l pre out with
  | nil =>
    obtain rfl : l = [] := List.length_eq_zero_iff.1 (by simpa [validIdx] using hv)
    cases hs
    rw [hn, List.length_nil, Int.natCast_zero, Int.add_zero, goUpTo_self]
    rfl
  | cons r rs ih =>
    simp only [validIdx, Bool.and_eq_true, decide_eq_true_eq] at hv
    obtain ⟨hr, hv⟩ := hv
    have hlen : (l.eraseIdx r).length = l.length - 1 := List.length_eraseIdx_of_lt hr
    simp only [shuffle, List.getElem?_eq_getElem hr, Option.map_eq_some_iff] at hs
    obtain ⟨out', hsh, rfl⟩ := hs
    have hstep : shuffleBody ((⟨(r :: rs).map fun (n : Nat) => (n : Int)⟩ : GoRand), l,
          pre ++ List.replicate l.length ([] : GoString)) (pre.length : Int)
        = LoopStep.next ((⟨rs.map fun (n : Nat) => (n : Int)⟩ : GoRand), l.eraseIdx r,
            (pre ++ [l[r]]) ++ List.replicate (l.eraseIdx r).length ([] : GoString)) := by
      -- the draw is `r`: `l[r]` is written to slot `pre.length`, the first empty one, and `l.eraseIdx r` is left to draw from
      have hpick : GoIndex.idx l (r : Int) = l[r] := (List.getElem_eq_getD (h := hr) []).symm
      have hslots : List.replicate l.length ([] : GoString) = [] :: List.replicate (l.eraseIdx r).length [] := by
        rw [hlen, ← List.replicate_succ, Nat.sub_add_cancel (Nat.zero_lt_of_lt hr)]
      have hwrite : (pre ++ List.replicate l.length ([] : GoString)).set pre.length l[r]
          = (pre ++ [l[r]]) ++ List.replicate (l.eraseIdx r).length [] := by
        rw [hslots, List.set_append_right _ _ (Nat.le_refl _), Nat.sub_self]
        exact List.append_cons pre l[r] _
      show LoopStep.next (_, List.take r l ++ List.drop (r + 1) l,
        (pre ++ List.replicate l.length []).set pre.length (GoIndex.idx l (r : Int))) = _
      rw [hpick, ← List.eraseIdx_eq_take_drop_succ, hwrite]
      rfl
    have hrec := ih (l.eraseIdx r) (pre ++ [l[r]]) out'
      (by rw [List.length_append, List.length_singleton, hlen]; omega) (hlen ▸ hv) hsh
    rw [List.length_append, List.length_singleton] at hrec
    rw [goUpTo_cons _ _ (by omega), goRange_cons, hstep, List.append_cons pre l[r] out']
    exact hrec

theorem shuffleList_refines (ext : Ext) (d : Discovery) (servers : List GoString) (rs : List Nat) (out : List GoString)
    (hr : ext.randNew = ⟨rs.map fun (n : Nat) => (n : Int)⟩)
    (hv : validIdx servers.length rs = true) (hs : shuffle servers rs = some out) :
    Discovery.shuffleList ext d servers = (d, out) := by
  unfold Discovery.shuffleList
  rw [hr]
  exact shuffle_loop d rs servers [] out _ (Int.zero_add _).symm hv hs

/-- `d.regex != nil`: the server argument was `/…/` -/
def filterOf (ext : Ext) (d : Discovery) : Option (GoString → Bool) :=
  if d.regex.compiled then some (ext.reMatchRaw d.regex) else none

theorem ServerList_eq (ext : Ext) (d : Discovery) (ho : d.order = Shuffle) :
    Discovery.ServerList ext d =
      Discovery.shuffleList ext d (dedup [] (wanted (ext.strList (b!"serverListFromModule")) (filterOf ext d))) := by
  unfold Discovery.ServerList filterOf wanted
  have hsh : (d.order == Shuffle) = true := by rw [ho]; rfl
  cases d.regex.compiled <;>
    simp only [filterList_refines, dedupList_refines, hsh, if_true, Bool.false_eq_true, if_false]

theorem ServerList_refines (ext : Ext) (d : Discovery) (rs : List Nat) (out : List GoString)
    (hr : ext.randNew = ⟨rs.map fun (n : Nat) => (n : Int)⟩) (ho : d.order = Shuffle)
    (hv : validIdx (dedup [] (wanted (ext.strList (b!"serverListFromModule")) (filterOf ext d))).length rs = true)
    (hs : serverList (ext.strList (b!"serverListFromModule")) (filterOf ext d) rs = some out) :
    Discovery.ServerList ext d = (d, out) :=
  (ServerList_eq ext d ho).trans (shuffleList_refines ext d _ rs out hr hv hs)

end Dtail.GenDiscovery
