/-
The connection counter, `stats.serverLimitExceeded`, `incrementConnections`, `decrementConnections` of internal/server/stats.go
(`Gen.Conn`; the mutex and the statistics log line are effects outside the translated state): the three functions are the
counter operations of the model's `connStep` (Model/Conn.lean), whose invariant is C14.
-/
import DtailModel.Generated.Code
import DtailModel.Model.Conn
namespace Dtail.GenConn
open Dtail Dtail.Go Dtail.Gen.Conn

def Rel (ext : Ext) (g : stats) (s : ConnState) : Prop :=
  g.currentConnections = s.counter ∧ ext.maxConnections = (s.max : Int)

theorem limit_spec (ext : Ext) (g : stats) :
    (stats.serverLimitExceeded ext g).1 = g ∧
    ((stats.serverLimitExceeded ext g).2 ≠ none ↔ g.currentConnections ≥ ext.maxConnections) := by
  unfold stats.serverLimitExceeded
  by_cases h : g.currentConnections ≥ ext.maxConnections
  · simp [h]
  · simp [h]

theorem increment_spec (ext : Ext) (g : stats) :
    (stats.incrementConnections ext g).currentConnections = g.currentConnections + 1 ∧
    (stats.incrementConnections ext g).lifetimeConnections = g.lifetimeConnections + 1 := ⟨rfl, rfl⟩

theorem decrement_spec (ext : Ext) (g : stats) :
    (stats.decrementConnections ext g).currentConnections = g.currentConnections - 1 ∧
    (stats.decrementConnections ext g).lifetimeConnections = g.lifetimeConnections := ⟨rfl, rfl⟩

/-- written after `listenerLoop` of internal/server/server.go, which is not translated: what it does with the counter when a
    connection arrives -/
def accept (ext : Ext) (g : stats) : stats × Bool :=
  match stats.serverLimitExceeded ext g with
  | (g, some _) => (g, false)
  | (g, none) => (stats.incrementConnections ext g, true)

theorem accept_refines (ext : Ext) (g : stats) (s s' : ConnState) (hr : Rel ext g s)
    (hs : connStep s .connect = some s') :
    Rel ext (accept ext g).1 s' ∧ ((accept ext g).2 = false ↔ s'.conns = s.conns ++ [.refused]) := by
  obtain ⟨hc, hm⟩ := hr
  obtain ⟨h1, h2⟩ := limit_spec ext g
  unfold accept
  rcases hx : stats.serverLimitExceeded ext g with ⟨g1, e⟩
  rw [hx] at h1 h2
  subst h1
  rw [hc, hm] at h2
  simp only [connStep] at hs
  cases e with
  | some m =>
    rw [if_pos (h2.1 nofun)] at hs; cases hs
    exact ⟨⟨hc, hm⟩, by simp⟩
  | none =>
    rw [if_neg fun h => h2.2 h rfl] at hs; cases hs
    exact ⟨⟨(increment_spec ext g1).1.trans (congrArg (· + 1) hc), hm⟩, by simp⟩

theorem release_refines (ext : Ext) (g : stats) (s s' : ConnState) (i : Nat) (hr : Rel ext g s)
    (hs : connStep s (.handshakeFail i) = some s' ∨ connStep s (.close i) = some s') :
    Rel ext (stats.decrementConnections ext g) s' := by
  obtain ⟨hc, hm⟩ := hr
  have hcnt : s'.counter = s.counter - 1 ∧ s'.max = s.max := by
    rcases hs with hs | hs <;> simp only [connStep, Option.ite_none_right_eq_some] at hs <;> cases hs.2 <;> exact ⟨rfl, rfl⟩
  exact ⟨by rw [(decrement_spec ext g).1, hc, hcnt.1], by rw [hcnt.2]; exact hm⟩

end Dtail.GenConn
