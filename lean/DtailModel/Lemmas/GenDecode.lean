/-
The server's command decoder (`Gen.Decode`: `Write`, `handleCommand`, `handleProtocolVersion`, `handleBase64` of
internal/server/handlers/basehandler.go).  Of the effects of `handleCommand` the translation keeps two, recorded in the handler:
the command started (`handleCommandCb`) and the options handed to `handleOptions`.  No byte string a client sends makes a guard
fail (`…_ok`), and what is started is what the model's `decodeCommand` decodes (`handleCommand_refines`).
-/
import DtailModel.Generated.Code
import DtailModel.Lemmas.GoRT
import DtailModel.Lemmas.GoStr
import DtailModel.Lemmas.LoopRules
import DtailModel.Lemmas.GenOptions
namespace Dtail.GenDecode
open Dtail Dtail.Go Dtail.GenQuery

theorem DeserializeOptions_ok (ext : Ext) (opts : List GoString) : IsOk (Gen.Config.DeserializeOptions ext opts) := by
  rw [GenOptions.DeserializeOptions_eq]
  refine goRange_inv IsOk (fun _ _ => True) trivial (fun (gl, m) x _ _ => ?_) fun _ _ => ⟨_, rfl⟩
  have hset : ∀ k val, StepOk IsOk (fun _ => True) (fun st => Outcome.ok (st.2, st.1, none)) (GenOptions.setStep ext k val gl m) :=
    fun k val => ite_all _ (fun _ => ⟨_, rfl⟩) fun _ => trivial
  rw [GenOptions.optBody_eq]
  refine ite_all _ (fun _ => ⟨_, rfl⟩) fun _ => ite_all _ (fun _ => ?_) fun _ => hset _ _
  exact ite_all _ (fun _ => ⟨_, rfl⟩) fun _ => hset _ _

open Gen.Decode in
def GoodVersion (args : List GoString) : Prop :=
  2 < args.length ∧ args.getD 0 [] = b!"protocol" ∧ args.getD 1 [] = Facts.protocolCompatBytes

open Gen.Decode in
theorem handleProtocolVersion_spec (ext : Ext) (h : baseHandler) (args : List GoString) :
    (GoodVersion args → ∃ add, baseHandler.handleProtocolVersion ext h args = .ok (h, args.drop 2, (args.length : Int) - 2, add, none)) ∧
    (¬ GoodVersion args → ∃ a c add e, baseHandler.handleProtocolVersion ext h args = .ok (h, a, c, add, some e)) := by
  let P := fun (r : Outcome (baseHandler × List GoString × Int × GoString × GoErr)) =>
    (GoodVersion args → ∃ add, r = .ok (h, args.drop 2, (args.length : Int) - 2, add, none)) ∧
    (¬ GoodVersion args → ∃ a c add e, r = .ok (h, a, c, add, some e))
  show P (baseHandler.handleProtocolVersion ext h args)
  have bad (hn : ¬ GoodVersion args) (a c add e) : P (.ok (h, a, c, add, some e)) :=
    ⟨fun hg => absurd hg hn, fun _ => ⟨_, _, _, _, rfl⟩⟩
  unfold baseHandler.handleProtocolVersion
  rw [GenOptions.idx_zero args, GenOptions.idx_one args, len_list]
  refine guard_rule P (by guard_tac) ?_
  refine ite_all P (fun h0 => bad (fun hg => ?_) _ _ _ _) fun h0 => ?_
  · -- fewer than three arguments, or the first is not `protocol`
    rcases Bool.or_eq_true_iff.1 h0 with hl | hn
    · exact absurd hg.1 (by guard_tac at hl ⊢)
    · exact bne_iff_ne.1 hn hg.2.1
  simp only [Bool.or_eq_true, decide_eq_true_eq, bne_iff_ne, not_or, Decidable.not_not] at h0
  obtain ⟨hl, hp⟩ := h0
  have g1 : goInRange args 1 = true := inRange_of_len _ 1 (by omega) (by omega)
  refine guard_rule P g1 ?_
  -- the version the translated code compares with is the literal of `protocol.ProtocolCompat`; it is
  -- `Facts.protocolCompatBytes` by `rfl`, and is not named here, so that a new version leaves this proof alone
  refine ite_all P (fun hne => ?_) fun heq => ?_
  · -- the message depends on the two versions; an error it is
    have err := bad fun hg => bne_iff_ne.1 hne hg.2.2
    simp only [g1, if_true]
    exact ite_all P (fun _ => ite_all P (fun _ => err _ _ _ _) fun _ => err _ _ _ _)
      fun _ => ite_all P (fun _ => err _ _ _ _) fun _ => err _ _ _ _
  · have hc : args.getD 1 [] = Facts.protocolCompatBytes := Decidable.of_not_not fun hn => heq (bne_iff_ne.2 hn)
    refine guard_rule P (sliceOk_of_len args 2 (by omega) (by omega)) ?_
    exact ⟨fun _ => ⟨_, rfl⟩, fun hn => absurd ⟨by omega, hp, hc⟩ hn⟩

open Gen.Decode in
def VersionOk (r : Outcome (baseHandler × List GoString × Int × GoString × GoErr)) : Prop :=
  ∃ h args argc add err, r = .ok (h, args, argc, add, err) ∧ (err = none → argc = (args.length : Int))

open Gen.Decode in
theorem handleProtocolVersion_ok (ext : Ext) (h : baseHandler) (args : List GoString) :
    VersionOk (baseHandler.handleProtocolVersion ext h args) := by
  obtain ⟨hg, hb⟩ := handleProtocolVersion_spec ext h args
  by_cases hv : GoodVersion args
  · obtain ⟨add, he⟩ := hg hv
    exact ⟨_, _, _, _, _, he, fun _ => by rw [List.length_drop]; have := hv.1; omega⟩
  · obtain ⟨a, c, add, e, he⟩ := hb hv
    exact ⟨_, _, _, _, _, he, fun e => by cases e⟩

open Gen.Decode in
/-- only for the true count: `handleBase64` tests the `argc` it is given, not `len(args)`, before it reads `args[0]` and
    `args[1]` -/
theorem handleBase64_eq (ext : Ext) (h : baseHandler) (args : List GoString) :
    baseHandler.handleBase64 ext h args (args.length : Int) =
      if args.length = 2 ∧ args.getD 0 [] = b!"base64" then
        let d := ext.base64Decode (args.getD 1 [])
        if d.2 != none then .ok (h, args, (args.length : Int), d.2)
        else .ok (h, splitOnByte 32 d.1, ((splitOnByte 32 d.1).length : Int), none)
      else .ok (h, args, (args.length : Int), some lit_5) := by
  unfold baseHandler.handleBase64
  rw [GenOptions.idx_zero args, GenOptions.idx_one args]
  by_cases h2 : args.length = 2
  · have hne : ((args.length : Int) != 2) = false := by guard_tac
    rw [hne, Bool.false_or, Bool.false_or, if_pos (inRange_of_len _ 0 (by omega) (by omega)),
      if_pos (inRange_of_len _ 1 (by omega) (by omega))]
    by_cases hb : args.getD 0 [] = b!"base64"
    · rw [if_neg (show ¬ (args.getD 0 [] != lit_6) = true by rw [hb]; decide),
        if_pos (show args.length = 2 ∧ args.getD 0 [] = b!"base64" from ⟨h2, hb⟩)]
      rfl
    · rw [if_pos (show (args.getD 0 [] != lit_6) = true by rw [bne_iff_ne]; exact hb),
        if_neg (show ¬ (args.length = 2 ∧ args.getD 0 [] = b!"base64") from fun h => hb h.2)]
  · have hne : ((args.length : Int) != 2) = true := by guard_tac
    rw [hne, Bool.true_or, Bool.true_or, if_pos rfl, if_pos rfl, if_neg (fun h => h2 h.1)]

open Gen.Decode in
def Base64Ok (r : Outcome (baseHandler × List GoString × Int × GoErr)) : Prop :=
  ∃ h args argc err, r = .ok (h, args, argc, err) ∧ (err = none → 0 < args.length)

open Gen.Decode in
theorem handleBase64_ok (ext : Ext) (h : baseHandler) (args : List GoString) (argc : Int) (hc : argc = (args.length : Int)) :
    Base64Ok (baseHandler.handleBase64 ext h args argc) := by
  rw [hc, handleBase64_eq]
  refine ite_all Base64Ok (fun _ => ?_) fun _ => ⟨_, _, _, _, rfl, nofun⟩
  exact ite_all Base64Ok (fun hd => ⟨_, _, _, _, rfl, fun e => absurd e (by simpa using hd)⟩)
    fun _ => ⟨_, _, _, _, rfl, fun _ => length_splitOnByte_pos _ _⟩

open Gen.Decode in
theorem handleBase64_spec (ext : Ext) (env : Env) (he : GenOptions.ExtIs ext env) (h : baseHandler) (args : List GoString) :
    let r := baseHandler.handleBase64 ext h args (args.length : Int)
    (args.length = 2 ∧ args.getD 0 [] = b!"base64" →
      match env.b64dec (args.getD 1 []) with
      | some d => r = .ok (h, splitOnByte 32 d, ((splitOnByte 32 d).length : Int), none)
      | none => ∃ a c e, r = .ok (h, a, c, some e)) ∧
    (¬ (args.length = 2 ∧ args.getD 0 [] = b!"base64") → ∃ a c e, r = .ok (h, a, c, some e)) := by
  intro r
  simp only [r, handleBase64_eq]
  refine ⟨fun hb => ?_, fun hb => ⟨_, _, _, if_neg hb⟩⟩
  rw [if_pos hb]
  cases hd : env.b64dec (args.getD 1 []) with
  | some d => simp only [he.b64ok _ d hd]; rfl
  | none =>
    have hne := he.b64err _ hd
    cases hee : (ext.base64Decode (args.getD 1 [])).2 with
    | none => exact absurd hee hne
    | some ee => exact ⟨_, _, ee, rfl⟩

open Gen.Decode in
/-- what `handleCommand` does after `handleProtocolVersion` and `handleBase64`, without its guards -/
def startCommand (ext : Ext) (h : baseHandler) (args : List GoString) (argc : Int) : Outcome baseHandler :=
  let parts := splitOnByte COLON (args.getD 0 [])
  if parts.length = 1 ∨ (parts.getD 1 []).length = 0 then
    .ok { h with started := h.started ++ [({}, argc, args, parts.getD 0 [])] }
  else
    (Gen.Config.DeserializeOptions ext (parts.drop 1)).bind fun r =>
      if r.2.2 != none then .ok h
      else .ok { h with options := h.options ++ [r.1], started := h.started ++ [(r.2.1, argc, args, parts.getD 0 [])] }

open Gen.Decode in
/-- `v` = (handler, arguments, their count, `add`, error), `b` = (handler, arguments, their count, error) -/
theorem handleCommand_eq (ext : Ext) (h : baseHandler) (cmd : GoString) :
    baseHandler.handleCommand ext h cmd =
      (baseHandler.handleProtocolVersion ext h (splitOnByte SP cmd)).bind fun v =>
        if v.2.2.2.2 != none then .ok v.1 else
        (baseHandler.handleBase64 ext v.1 v.2.1 v.2.2.1).bind fun b =>
          if b.2.2.2 != none then .ok b.1 else startCommand ext b.1 b.2.1 b.2.2.1 := by
  obtain ⟨h1, args, argc, add, err, hv, hargc⟩ := handleProtocolVersion_ok ext h (splitOnByte (32 : UInt8) cmd)
  unfold baseHandler.handleCommand
  rw [show splitOnByte SP cmd = splitOnByte (32 : UInt8) cmd from rfl, hv]
  refine ite_congr rfl (fun _ => rfl) fun herr => ?_
  obtain ⟨h2, args2, argc2, err2, hb, hpos⟩ := handleBase64_ok ext h1 args argc (hargc (by simpa using herr))
  rw [hb]
  dsimp only
  refine ite_congr rfl (fun _ => rfl) fun herr2 => ?_
  have hp := hpos (by simpa using herr2)
  unfold startCommand
  rw [if_pos (inRange_of_len _ 0 (by omega) (by omega)), GenOptions.idx_zero args2,
    show splitOnByte (58 : UInt8) (args2.getD 0 []) = splitOnByte COLON (args2.getD 0 []) from rfl]
  have hparts := length_splitOnByte_pos COLON (args2.getD 0 [])
  generalize splitOnByte COLON (args2.getD 0 []) = parts at hparts ⊢
  -- `parts[1]` is looked at only behind `len(parts) == 1 ||`
  rw [if_pos (inRange_of_len _ 0 (by omega) (by omega)),
    if_pos (show (GoLen.len parts == 1 || goInRange parts 1) = true by guard_tac), GenOptions.idx_zero parts,
    GenOptions.idx_one parts]
  by_cases h1 : parts.length = 1 ∨ (parts.getD 1 []).length = 0
  · rw [if_pos h1, if_pos (by guard_tac at h1 ⊢)]
  · rw [if_neg h1, if_neg (by guard_tac at h1 ⊢), if_pos (sliceOk_of_len parts 1 (by omega) (by omega))]
    obtain ⟨⟨m, gl, e⟩, hd⟩ := DeserializeOptions_ok ext (parts.drop 1)
    rw [show Int.toNat 1 = 1 from rfl, hd]
    rfl

open Gen.Decode in
theorem startCommand_ok (ext : Ext) (h : baseHandler) (args : List GoString) (argc : Int) : IsOk (startCommand ext h args argc) := by
  unfold startCommand
  refine ite_all IsOk (fun _ => ⟨_, rfl⟩) fun _ => ?_
  obtain ⟨v, hv⟩ := DeserializeOptions_ok ext ((splitOnByte COLON (args.getD 0 [])).drop 1)
  rw [hv]
  exact ite_all IsOk (fun _ => ⟨_, rfl⟩) fun _ => ⟨_, rfl⟩

open Gen.Decode in
/-- C10: for every command string a client can send none of the index and slice expressions of `handleCommand`, nor of the
    functions it calls to decode, is out of range -/
theorem handleCommand_ok (ext : Ext) (h : baseHandler) (commandStr : GoString) :
    IsOk (baseHandler.handleCommand ext h commandStr) := by
  rw [handleCommand_eq]
  obtain ⟨h1, args, argc, add, err, hv, hargc⟩ := handleProtocolVersion_ok ext h (splitOnByte SP commandStr)
  rw [hv]
  refine ite_all IsOk (fun _ => ⟨_, rfl⟩) fun herr => ?_
  obtain ⟨h2, args2, argc2, err2, hb, _⟩ := handleBase64_ok ext h1 args argc (hargc (by simpa using herr))
  rw [hb]
  exact ite_all IsOk (fun _ => ⟨_, rfl⟩) fun _ => startCommand_ok ext _ _ _

open Gen.Decode in
/-- how the translated `handleCommand` (started on a handler that has recorded nothing) matches the model's decoder: the
    command callback is invoked once with the model's name, count, arguments and line context, `handleOptions` with a
    map that answers like the model's option list; on an error nothing is started -/
def CmdMatches (r : Outcome DecodedCmd) (t : Outcome baseHandler) : Prop :=
  match r with
  | .ok d => ∃ h' gl, t = .ok h' ∧ h'.started = [(gl, (d.argc : Int), d.args, d.name)] ∧ GenOptions.ltxOf gl = d.ltx ∧
      (match d.options with
       | none => h'.options = []
       | some o => ∃ m, h'.options = [m] ∧ GenOptions.Rel m o)
  | .err _ => ∃ h', t = .ok h' ∧ h'.started = [] ∧ h'.options = []
  | .panic _ => True

theorem startCommand_refines (ext : Ext) (env : Env) (he : GenOptions.ExtIs ext env) (args : List GoString) (hne : args ≠ []) :
    CmdMatches (decodeArgs env args) (startCommand ext {} args (args.length : Int)) := by
  rw [decodeArgs_eq env args hne]
  unfold startCommand
  have hpne := splitOnByte_ne_nil COLON (args.getD 0 [])
  generalize splitOnByte COLON (args.getD 0 []) = parts at hpne ⊢
  rw [decodeParts_eq env args parts hpne]
  by_cases h1 : parts.length = 1 ∨ (parts.getD 1 []).length = 0
  · rw [if_pos h1, if_pos h1]
    exact ⟨_, {}, rfl, rfl, rfl, rfl⟩
  · rw [if_neg h1, if_neg h1]
    have hm := GenOptions.DeserializeOptions_refines ext env he (parts.drop 1)
    cases hmo : deserializeOptions env (parts.drop 1) [] {} with
    | ok r =>
      rw [hmo] at hm
      obtain ⟨m', gl', ht, hrel, hl⟩ := hm
      rw [ht]
      exact ⟨_, gl', rfl, rfl, hl, m', rfl, hrel⟩
    | err e =>
      rw [hmo] at hm
      obtain ⟨m', gl', e', ht⟩ := hm
      rw [ht]
      exact ⟨_, rfl, rfl, rfl⟩
    | panic p => trivial

open Gen.Decode in
theorem handleCommand_refines (ext : Ext) (env : Env) (he : GenOptions.ExtIs ext env) (cmd : GoString) :
    CmdMatches (decodeCommand env cmd) (baseHandler.handleCommand ext {} cmd) := by
  rw [handleCommand_eq, decodeCommand]
  have herr : ∀ e, CmdMatches (.err e) (Outcome.ok ({} : baseHandler)) := fun _ => ⟨_, rfl, rfl, rfl⟩
  have hne : splitOnByte SP cmd ≠ [] := splitOnByte_ne_nil _ _
  generalize splitOnByte SP cmd = args at hne ⊢
  rw [decodeEnvelope_eq env args hne]
  obtain ⟨hvg, hvb⟩ := handleProtocolVersion_spec ext {} args
  by_cases hg : GoodVersion args
  · obtain ⟨add, hv⟩ := hvg hg
    obtain ⟨hlen, hp0, hp1⟩ := hg
    rw [hv, if_pos ⟨hlen, hp0⟩, if_pos hp1]
    dsimp only [Outcome.bind]
    rw [if_neg (show ¬ ((none : GoErr) != none) = true by decide),
      show (args.length : Int) - 2 = ((args.drop 2).length : Int) by rw [List.length_drop]; omega]
    generalize args.drop 2 = bargs
    obtain ⟨hbg, hbb⟩ := handleBase64_spec ext env he {} bargs
    by_cases hb : bargs.length = 2 ∧ bargs.getD 0 [] = b!"base64"
    · have h64 := hbg hb
      rw [if_pos hb]
      cases hd : env.b64dec (bargs.getD 1 []) with
      | none =>
        rw [hd] at h64
        obtain ⟨a, c, e, hr⟩ := h64
        rw [hr]
        exact herr _
      | some d =>
        rw [hd] at h64
        rw [h64]
        exact startCommand_refines ext env he (splitOnByte SP d) (splitOnByte_ne_nil SP d)
    · obtain ⟨a, c, e, hr⟩ := hbb hb
      rw [hr, if_neg hb]
      exact herr _
  · obtain ⟨a, c, add, e, hv⟩ := hvb hg
    rw [hv]
    by_cases h1 : 2 < args.length ∧ args.getD 0 [] = b!"protocol"
    · rw [if_pos h1, if_neg (fun hc => hg ⟨h1.1, h1.2, hc⟩)]; exact herr _
    · rw [if_neg h1]; exact herr _

open Gen.Decode in
theorem Write_ok (ext : Ext) (h : baseHandler) (p : GoString) :
    ∃ h', baseHandler.Write ext h p = Outcome.ok (h', (p.length : Int), none) := by
  unfold baseHandler.Write
  dsimp only
  rw [len_list]
  generalize (p.length : Int) = n
  induction p generalizing h with
  | nil => exact ⟨h, rfl⟩
  | cons b rest ih =>
    rw [goRange_cons]
    by_cases hb : (b == 59) = true
    · simp only [hb, if_true]
      obtain ⟨h1, he⟩ := handleCommand_ok ext h h.writeBuf
      rw [he]
      simp only []
      exact ih { h1 with writeBuf := [] }
    · simp only [hb, Bool.false_eq_true, if_false]
      exact ih { h with writeBuf := h.writeBuf ++ [b] }

end Dtail.GenDecode
