/-
The structure of the query parser (C11).  `tokensConsume` cuts a token list at the next bare keyword (`tokensConsume_eq`),
and one iteration of the `parseTokens` loop is: cut the clause body off, build the *patch* the clause denotes from it
(`clausePatch`: the fields it sets, independent of the query so far), apply the patch — `parseClause_cons`, for every token
list.  Clause boundaries, what a clause denotes and the absence of panics in the loop are read off that form.
-/
import DtailModel.Lemmas.NoPanic
import DtailModel.Lemmas.GoStr
namespace Dtail

/-- what `tokensConsume` makes of one non-keyword token -/
def normTok (t : Tok) : Option Tok :=
  if t.str.length = 0 then none
  else if t.str.length > 1 ∧ t.str.head? = some BACKTICK ∧ t.str.getLast? = some BACKTICK then
    some { str := (t.str.take (t.str.length - 1)).drop 1, bare := t.bare, stripped := true }
  else some t

/-- the body of the clause at the head of a token list, as its builder sees it -/
def bodyToks (ts : List Tok) : List Tok := (ts.takeWhile (!·.isKeyword)).filterMap normTok

theorem tokensConsume_keyword (k : Tok) (rest : List Tok) (hk : k.isKeyword = true) :
    tokensConsume (k :: rest) = .ok (some (k :: rest), []) := by
  rw [tokensConsume, if_pos hk]

theorem tokensConsume_cons (t : Tok) (rest : List Tok) (hk : t.isKeyword = false) :
    tokensConsume (t :: rest) = (tokensConsume rest).bind (fun rc => .ok (rc.1, (normTok t).toList ++ rc.2)) := by
  rw [tokensConsume, if_neg (ne_true_of_eq_false hk), normTok]
  dsimp only
  by_cases h0 : t.str.length = 0
  · rw [if_pos h0, if_pos h0]
    cases tokensConsume rest <;> rfl
  -- a token that is not empty has a first and a last byte: the two index operations return what `head?` and `getLast?` do
  have hpos : 0 < t.str.length := Nat.pos_of_ne_zero h0
  have hlast : t.str.length - 1 < t.str.length := Nat.sub_one_lt h0
  rw [if_neg h0, if_neg h0, List.head?_eq_getElem?, List.getLast?_eq_getElem?, List.getElem?_eq_getElem hpos,
    List.getElem?_eq_getElem hlast, goIndex_of_lt _ 0 hpos, goIndex_of_lt _ _ hlast]
  simp only [bind, Outcome.ok_bind, Option.some.injEq]
  by_cases hq : t.str.length > 1 ∧ t.str[0] = BACKTICK ∧ t.str[t.str.length - 1] = BACKTICK
  · rw [if_pos hq, if_pos hq, goSlice_of_le _ _ _ (Nat.le_sub_one_of_lt hq.1) (Nat.sub_le _ _)]
    cases tokensConsume rest <;> rfl
  · rw [if_neg hq, if_neg hq]
    cases tokensConsume rest <;> rfl

theorem tokensConsume_eq (ts : List Tok) :
    ∃ r, tokensConsume ts = .ok (r, bodyToks ts) ∧ restOf r = ts.dropWhile (!·.isKeyword) := by
  unfold bodyToks
  induction ts with
  | nil => exact ⟨none, by rw [tokensConsume]; rfl, rfl⟩
  | cons t ts ih =>
    cases hk : t.isKeyword with
    | true => exact ⟨some (t :: ts), by simp [tokensConsume_keyword t ts hk, hk], by simp [restOf, hk]⟩
    | false =>
      obtain ⟨r, h, hr⟩ := ih
      refine ⟨r, ?_, by simpa [hk] using hr⟩
      rw [tokensConsume_cons t ts hk, h]
      cases hn : normTok t <;> simp [Outcome.bind, hk, hn]

def afterBy (kwl : Bytes) (body : List Tok) : List Tok :=
  if kwl = b!"group" ∨ kwl = b!"rorder" ∨ kwl = b!"order" then consumeOptional body (b!"by") else body

/-- the fields a clause sets (`none` = untouched) -/
structure QPatch where
  sel : Option (List SelCond) := none
  table : Option Bytes := none
  whr : Option (List WhereCond) := none
  set : Option (List SetCond) := none
  group : Option (List Bytes) := none         -- group keys (groupBy and the joined groupKey)
  order : Option (Bytes × Bool) := none       -- order key, and whether it was `rorder`
  interval : Option Int := none
  limit : Option Int := none
  outfile : Option (Bytes × Bool) := none
  logFormat : Option Bytes := none

def QPatch.apply (p : QPatch) (q : Query) : Query :=
  { sel := p.sel.getD q.sel
    table := p.table.getD q.table
    whr := p.whr.getD q.whr
    set := p.set.getD q.set
    groupBy := p.group.getD q.groupBy
    groupKey := match p.group with | some g => joinByte COMMA g | none => q.groupKey
    orderBy := match p.order with | some (k, _) => k | none => q.orderBy
    reverse := match p.order with | some (_, true) => true | _ => q.reverse
    interval := p.interval.getD q.interval
    limit := p.limit.getD q.limit
    outfile := match p.outfile with | some o => some o | none => q.outfile
    logFormat := p.logFormat.getD q.logFormat }

/-- the patch a clause denotes, from its keyword (lower-cased) and its consumed body tokens -/
def clausePatch (fl : FloatOracle) (kwl : Bytes) (found : List Tok) : Outcome QPatch :=
  if kwl = b!"select" then (makeSelect found).bind fun s => .ok { sel := some s }
  else if kwl = b!"from" then
    if found.length = 0 then .err "expected table name after 'from'"
    else if found.length > 1 then .err "expected only one table name after 'from'"
    else match found with
      | f0 :: _ => .ok { table := some (upperAscii f0.str) }
      | [] => .err "expected table name after 'from'"
  else if kwl = b!"where" then (makeWhere fl found).bind fun w => .ok { whr := some w }
  else if kwl = b!"set" then (makeSet fl found).bind fun s => .ok { set := some s }
  else if kwl = b!"group" then .ok { group := some (found.map (·.str)) }
  else if kwl = b!"rorder" ∨ kwl = b!"order" then
    match found with
    | [] => .err "Unexpected end of query"
    | f0 :: _ => .ok { order := some (f0.str, decide (kwl = b!"rorder")) }
  else if kwl = b!"interval" then
    match found with
    | [] => .ok {}
    | f0 :: _ => match atoi f0.str with
      | none => .err "interval: not a number"
      | some i => .ok { interval := some i }
  else if kwl = b!"limit" then
    match found with
    | [] => .err "Unexpected end of query"
    | f0 :: _ => match atoi f0.str with
      | none => .err "limit: not a number"
      | some i => .ok { limit := some i }
  else if kwl = b!"outfile" then
    match found with
    | [f0] => .ok { outfile := some (f0.str, false) }
    | [f0, f1] => if f0.str = b!"append" then .ok { outfile := some (f1.str, true) } else .err "Invalid query"
    | _ => .err "Invalid query"
  else if kwl = b!"logformat" then
    match found with
    | [] => .err "Unexpected end of query"
    | f0 :: _ => .ok { logFormat := some f0.str }
  else .err "Unexpected keyword"

/-- two chains of tests on the same conditions are compared test by test (`split` on a chain of ten is
    exponentially slow) -/
theorem ite_rel {α β : Type} {c : Prop} [Decidable c] {R : α → β → Prop} {a a' : α} {b b' : β}
    (ht : c → R a b) (he : ¬ c → R a' b') : R (if c then a else a') (if c then b else b') := by
  by_cases h : c
  · rw [if_pos h, if_pos h]; exact ht h
  · rw [if_neg h, if_neg h]; exact he h

theorem ite_eq_bind {α β : Type} {c : Prop} [Decidable c] {a a' : Outcome β} {b b' : Outcome α} {f : α → Outcome β}
    (ht : c → a = b.bind f) (he : ¬ c → a' = b'.bind f) : (if c then a else a') = (if c then b else b').bind f :=
  ite_rel (R := fun (a : Outcome β) (b : Outcome α) => a = b.bind f) ht he

/-- One iteration of the `parseTokens` loop.  The one thing the patch does not say: `group` with nothing behind it is
    rejected (an empty *consumed* body is an empty group key). -/
theorem parseClause_cons (fl : FloatOracle) (q : Query) (kw : Tok) (tail : List Tok) :
    parseClause fl q (kw :: tail) =
      if lowerKey kw.str = b!"group" ∧ afterBy (lowerKey kw.str) tail = [] then .err "Unexpected end of query" else
      (clausePatch fl (lowerKey kw.str) (bodyToks (afterBy (lowerKey kw.str) tail))).bind fun p =>
        .ok (p.apply q, (afterBy (lowerKey kw.str) tail).dropWhile (!·.isKeyword)) := by
  generalize hkwl : lowerKey kw.str = kwl
  obtain ⟨r, hc, hr⟩ := tokensConsume_eq tail
  obtain ⟨r', hc', hr'⟩ := tokensConsume_eq (consumeOptional tail (b!"by"))
  have hlen : ∀ l : List Tok, l.length < 1 ↔ l = [] := fun l => by cases l <;> simp
  unfold parseClause clausePatch
  rw [show goIndex (kw :: tail) 0 = .ok kw from rfl, show goSliceFrom (kw :: tail) 1 = .ok tail from rfl]
  simp only [Bind.bind, Outcome.ok_bind, hkwl, hlen, hc, hc', hr, hr']
  by_cases hg : kwl = b!"group" ∧ afterBy kwl tail = []
  · rw [if_pos hg]
    obtain ⟨kg, he⟩ := hg
    subst kg
    rw [show afterBy _ tail = _ from if_pos (by decide)] at he
    simp [he]
  rw [if_neg hg]
  -- both sides are now the same chain of tests on `kwl`; the branches are compared one by one
  refine ite_eq_bind (fun (k : kwl = b!"select") => ?_) fun k1 => ?_
  · subst k
    rw [show afterBy _ tail = tail from if_neg (by decide)]
    cases makeSelect (bodyToks tail) <;> rfl
  refine ite_eq_bind (fun (k : kwl = b!"from") => ?_) fun k2 => ?_
  · subst k
    rw [show afterBy _ tail = tail from if_neg (by decide)]
    generalize bodyToks tail = F
    rcases F with _ | ⟨f0, _ | ⟨f1, F⟩⟩ <;> simp [QPatch.apply, Outcome.bind, goIndex]
  refine ite_eq_bind (fun (k : kwl = b!"where") => ?_) fun k3 => ?_
  · subst k
    rw [show afterBy _ tail = tail from if_neg (by decide)]
    cases makeWhere fl (bodyToks tail) <;> rfl
  refine ite_eq_bind (fun (k : kwl = b!"set") => ?_) fun k4 => ?_
  · subst k
    rw [show afterBy _ tail = tail from if_neg (by decide)]
    cases makeSet fl (bodyToks tail) <;> rfl
  refine ite_eq_bind (fun (k : kwl = b!"group") => ?_) fun k5 => ?_
  · subst k
    have he : ¬ afterBy _ tail = [] := fun h => hg ⟨rfl, h⟩
    rw [show afterBy _ tail = _ from if_pos (by decide)] at he ⊢
    rw [if_neg he]
    rfl
  refine ite_eq_bind (fun (k : kwl = b!"rorder" ∨ kwl = b!"order") => ?_) fun k6 => ?_
  · rw [show afterBy _ tail = _ from if_pos (Or.inr k)]
    by_cases he : consumeOptional tail (b!"by") = []
    · rw [if_pos he, he]; rfl
    rw [if_neg he]
    generalize bodyToks (consumeOptional tail (b!"by")) = F
    rcases F with _ | ⟨f0, F⟩
    · rfl
    · by_cases hro : kwl = b!"rorder" <;> simp [QPatch.apply, hro, Outcome.bind, goIndex]
  rw [show afterBy _ tail = tail from if_neg (fun h => h.elim k5 k6)]
  generalize bodyToks tail = F
  refine ite_eq_bind (fun (_ : kwl = b!"interval") => ?_) fun _ => ?_
  · rcases F with _ | ⟨f0, F⟩
    · rfl
    · simp only [List.length_cons, Nat.zero_lt_succ, if_true, List.getElem?_cons_zero, goIndex, Outcome.ok_bind]
      cases atoi f0.str <;> rfl
  refine ite_eq_bind (fun (_ : kwl = b!"limit") => ?_) fun _ => ?_
  · rcases F with _ | ⟨f0, F⟩
    · rfl
    · simp only [List.length_cons, Nat.succ_ne_zero, if_false, List.getElem?_cons_zero, goIndex, Outcome.ok_bind]
      cases atoi f0.str <;> rfl
  refine ite_eq_bind (fun (_ : kwl = b!"outfile") => ?_) fun _ => ?_
  · rcases F with _ | ⟨f0, _ | ⟨f1, _ | ⟨f2, F⟩⟩⟩ <;> try rfl
    by_cases ha : f0.str = b!"append" <;> simp [QPatch.apply, ha, Outcome.bind, goIndex]
  refine ite_eq_bind (fun (_ : kwl = b!"logformat") => ?_) fun _ => rfl
  rcases F with _ | ⟨f0, F⟩ <;> rfl

theorem parseSelect_agg (agg f : Bytes) (bare : Bool) (ha : LPAR ∉ agg) (hf1 : LPAR ∉ f) (hf2 : RPAR ∉ f) :
    parseSelect ⟨agg ++ LPAR :: (f ++ [RPAR]), bare, false⟩ =
      match aggOfName agg with
      | some op => .ok ⟨f, agg ++ LPAR :: (f ++ [RPAR]), op⟩
      | none => .err "Unknown aggregation in 'select' clause" := by
  have hs1 : splitOnByte LPAR (agg ++ LPAR :: (f ++ [RPAR])) = [agg, f ++ [RPAR]] := by
    rw [splitOnByte_append_sep LPAR _ _ ha, splitOnByte_nosep LPAR _ (by simpa [LPAR, RPAR] using hf1)]
  have hs2 : splitOnByte RPAR (f ++ [RPAR]) = [f, []] := splitOnByte_append_sep RPAR f [] hf2
  -- the text holds a '(', so it is not taken for a plain field name; the two splits have two parts each
  cases h : aggOfName agg <;> simp [parseSelect, hs1, hs2, goIndex, h, Bind.bind, Outcome.bind]

/-- a clause as the user writes it: the keyword token and the tokens up to the next keyword -/
structure ClauseT where
  kw : Tok
  body : List Tok

def flatC (cs : List ClauseT) : List Tok := cs.flatMap (fun c => c.kw :: c.body)

/-- the keyword is a keyword, the body holds none, and something follows the (optional `by` of
    the) keyword -/
def ClauseWF (c : ClauseT) : Prop :=
  c.kw.isKeyword = true ∧ (∀ t ∈ c.body, t.isKeyword = false) ∧ afterBy (lowerKey c.kw.str) c.body ≠ []

def clauseStep (fl : FloatOracle) (q : Query) (c : ClauseT) : Outcome Query :=
  (parseClause fl q (c.kw :: c.body)).bind (fun p => .ok p.1)

def foldClauses (fl : FloatOracle) : Query → List ClauseT → Outcome Query
  | q, [] => .ok q
  | q, c :: cs => (clauseStep fl q c).bind (fun q' => foldClauses fl q' cs)

def patchOf (fl : FloatOracle) (c : ClauseT) : Outcome QPatch :=
  clausePatch fl (lowerKey c.kw.str) ((afterBy (lowerKey c.kw.str) c.body).filterMap normTok)

/-- what follows a clause: nothing, or the next clause's keyword -/
def ClauseEnd (rest : List Tok) : Prop := rest = [] ∨ ∃ k r, rest = k :: r ∧ k.isKeyword = true

theorem takeWhile_clauseEnd (rest : List Tok) (hr : ClauseEnd rest) : rest.takeWhile (!·.isKeyword) = [] := by
  rcases hr with rfl | ⟨k, r, rfl, hk⟩
  · rfl
  · simp [hk]

theorem dropWhile_clauseEnd (rest : List Tok) (hr : ClauseEnd rest) : rest.dropWhile (!·.isKeyword) = rest := by
  rcases hr with rfl | ⟨k, r, rfl, hk⟩
  · rfl
  · rw [List.dropWhile_cons_of_neg (by rw [hk]; decide)]

theorem afterBy_append (kwl : Bytes) (body rest : List Tok) (h : afterBy kwl body ≠ []) :
    afterBy kwl (body ++ rest) = afterBy kwl body ++ rest := by
  unfold afterBy at h ⊢
  split
  · cases body with
    | nil => simp [consumeOptional] at h
    | cons t ts => simp only [List.cons_append, consumeOptional]; split <;> rfl
  · rfl

theorem afterBy_sub (kwl : Bytes) (body : List Tok) : ∀ t ∈ afterBy kwl body, t ∈ body := by
  unfold afterBy
  split
  · cases body with
    | nil => simp [consumeOptional]
    | cons x xs => simp only [consumeOptional]; split <;> simp +contextual
  · exact fun _ h => h

theorem parseClause_clause (fl : FloatOracle) (q : Query) (c : ClauseT)
    (hb : ∀ t ∈ c.body, t.isKeyword = false) (hne : afterBy (lowerKey c.kw.str) c.body ≠ [])
    (rest : List Tok) (hr : ClauseEnd rest) :
    parseClause fl q (c.kw :: (c.body ++ rest)) = (patchOf fl c).bind fun p => .ok (p.apply q, rest) := by
  have hX : ∀ t ∈ afterBy (lowerKey c.kw.str) c.body, (!t.isKeyword) = true := fun t ht => by
    rw [hb t (afterBy_sub _ _ t ht)]; rfl
  -- the body is what the clause builder takes; the next clause's keyword, or the end, stops it
  rw [parseClause_cons, afterBy_append _ _ _ hne, if_neg (fun h => List.append_ne_nil_of_left_ne_nil hne _ h.2), bodyToks,
    patchOf, List.takeWhile_append_of_pos hX, List.dropWhile_append_of_pos hX, takeWhile_clauseEnd rest hr,
    List.append_nil, dropWhile_clauseEnd rest hr]

theorem clauseStep_patch (fl : FloatOracle) (q : Query) (c : ClauseT)
    (hb : ∀ t ∈ c.body, t.isKeyword = false) (hne : afterBy (lowerKey c.kw.str) c.body ≠ []) :
    clauseStep fl q c = (patchOf fl c).bind (fun p => .ok (p.apply q)) := by
  have h := parseClause_clause fl q c hb hne [] (Or.inl rfl)
  rw [List.append_nil] at h
  rw [clauseStep, h]
  cases patchOf fl c <;> rfl

theorem flatC_clauseEnd (cs : List ClauseT) (hwf : ∀ c ∈ cs, ClauseWF c) : ClauseEnd (flatC cs) := by
  cases cs with
  | nil => exact Or.inl rfl
  | cons c rest => exact Or.inr ⟨c.kw, c.body ++ flatC rest, by simp [flatC], (hwf c (by simp)).1⟩

theorem parseTokensAux_flat (fl : FloatOracle) (cs : List ClauseT) (hwf : ∀ c ∈ cs, ClauseWF c)
    (fuel : Nat) (hf : cs.length ≤ fuel) (q : Query) :
    parseTokensAux fl fuel q (flatC cs) = foldClauses fl q cs := by
  induction cs generalizing fuel q with
  | nil => cases fuel <;> rfl
  | cons c rest ih =>
    cases fuel with
    | zero => simp at hf
    | succ n =>
      have hc := hwf c (by simp)
      have hrest : ∀ x ∈ rest, ClauseWF x := fun x hx => hwf x (List.mem_cons_of_mem _ hx)
      have hflat : flatC (c :: rest) = c.kw :: (c.body ++ flatC rest) := by simp [flatC]
      rw [hflat, parseTokensAux, if_neg (by simp), foldClauses, clauseStep_patch fl q c hc.2.1 hc.2.2,
        parseClause_clause fl q c hc.2.1 hc.2.2 _ (flatC_clauseEnd rest hrest)]
      cases patchOf fl c with
      | ok p => exact ih hrest n (by simp at hf; omega) (p.apply q)
      | err e => rfl
      | panic p => rfl

theorem flatC_length (cs : List ClauseT) : cs.length ≤ (flatC cs).length := by
  induction cs with
  | nil => simp [flatC]
  | cons c rest ih => simp only [flatC, List.flatMap_cons, List.length_append, List.length_cons] at ih ⊢; omega

/-- the last checks of `Query.parse` -/
def C11.finishQuery (q : Query) : Outcome Query :=
  if q.sel.length < 1 then .err "Expected at least one field in 'select' clause" else
  let q := if q.groupBy.length = 0 then (match q.sel with | s0 :: _ => { q with groupBy := [s0.field] } | [] => q) else q
  if q.orderBy ≠ [] ∧ !(q.sel.any (fun sc => sc.storage = q.orderBy)) then
    .err "Can not '(r)order by', must be present in 'select' clause"
  else .ok q

theorem parseQuery_eq (fl : FloatOracle) (ts : List Tok) :
    parseQuery fl ts = (parseTokensAux fl (ts.length + 1) {} ts).bind C11.finishQuery := by
  unfold parseQuery
  cases parseTokensAux fl (ts.length + 1) {} ts with
  | err e => rfl
  | panic p => rfl
  | ok q =>
    obtain ⟨sel, table, whr, set, groupBy, orderBy, reverse, groupKey, interval, limit, outfile, logFormat⟩ := q
    -- once it is known whether there is a select list and a group key, both sides compute
    cases sel with
    | nil => rfl
    | cons s0 rest => cases groupBy <;> rfl

end Dtail
