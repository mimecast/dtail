/-
The column algebra behind C05: `combine op` is associative, `{}` is a two-sided identity on everything
a fold of `combine op` produces, so folding is a homomorphism from lists under `++`; for count, sum,
avg, min and max it is also commutative.
-/
import DtailModel.Model.Aggregate
namespace Dtail.C05

/-! The three numeric merges are core's `Option.merge` of `+`, `min` and `max`: associativity and
commutativity come from core's instances. -/

theorem addNum_eq : addNum = Option.merge (· + ·) := by
  funext a b; cases a <;> cases b <;> rfl

theorem minNum_eq : minNum = Option.merge min := by
  funext a b; cases a <;> cases b <;> simp [minNum, Int.min_def] <;> omega

theorem maxNum_eq : maxNum = Option.merge max := by
  funext a b; cases a <;> cases b <;> simp [maxNum, Int.max_def] <;> omega

theorem combine_assoc (op : AggOp) (a b c : Col) :
    combine op (combine op a b) c = combine op a (combine op b c) := by
  cases op <;> simp only [combine, addNum_eq, minNum_eq, maxNum_eq, Std.Associative.assoc]
  -- last and len: the latest operand that carries a string wins
  all_goals by_cases h : c.str.isSome <;> simp [h]

instance (op : AggOp) : Std.Associative (combine op) := ⟨combine_assoc op⟩

theorem combine_comm (op : AggOp) (a b : Col)
    (hop : op = .count ∨ op = .sum ∨ op = .avg ∨ op = .min ∨ op = .max) :
    combine op a b = combine op b a := by
  rcases hop with rfl | rfl | rfl | rfl | rfl <;>
    simp only [combine, addNum_eq, minNum_eq, maxNum_eq, Std.Commutative.comm (op := Option.merge _) a.num]

/-- a column state as an operation produces it -/
def Col.Wf (op : AggOp) (c : Col) : Prop :=
  match op with
  | .count | .sum | .avg | .min | .max => c.str = none
  | .last => c.num = none
  | .len => (c.num.isSome ↔ c.str.isSome)
  | .undef => c = {}

theorem combine_empty (op : AggOp) (a : Col) (h : Col.Wf op a) :
    combine op a {} = a ∧ combine op {} a = a := by
  obtain ⟨n, s⟩ := a
  cases op <;> cases s <;> simp_all [combine, addNum_eq, minNum_eq, maxNum_eq, Col.Wf]

theorem contribution_wf (op : AggOp) (fs : Fields) (field : Bytes) (c : Col)
    (h : contribution op fs field = some c) : Col.Wf op c := by
  unfold contribution at h
  generalize getField fs field = o at h
  cases o with
  | none => cases h
  | some v =>
    cases op <;> dsimp only at h
    case undef => cases h
    case count | last => cases h; rfl
    case len => cases h; exact Iff.rfl
    all_goals obtain ⟨n, -, rfl⟩ := Option.map_eq_some_iff.1 h; rfl

/-- the column after a sequence of contributions (lines of one group, in order) -/
def colFold (op : AggOp) (ks : List Col) : Col := ks.foldl (combine op) {}

theorem combine_combine_empty (op : AggOp) (a b : Col) : combine op (combine op a b) {} = combine op a b := by
  cases op <;> simp [combine, addNum_eq, minNum_eq, maxNum_eq]

/-- No `Col.Wf` of the folded columns is asked for: whatever `combine` returns absorbs `{}` on the
    right (`combine_combine_empty`), well-formed operands or not. -/
theorem colFold_empty (op : AggOp) (ks : List Col) :
    combine op {} (colFold op ks) = colFold op ks ∧ combine op (colFold op ks) {} = colFold op ks := by
  suffices ∀ c, combine op {} c = c ∧ combine op c {} = c →
      combine op {} (ks.foldl (combine op) c) = ks.foldl (combine op) c ∧
      combine op (ks.foldl (combine op) c) {} = ks.foldl (combine op) c from
    this {} (by cases op <;> exact ⟨rfl, rfl⟩)
  induction ks with
  | nil => exact fun _ hc => hc
  | cons k ks ih => exact fun c hc => ih _ ⟨by rw [← combine_assoc, hc.1], combine_combine_empty op c k⟩

theorem foldl_combine (op : AggOp) (ks : List Col) (c : Col) (hc : combine op c {} = c) :
    ks.foldl (combine op) c = combine op c (colFold op ks) := by
  rw [colFold, ← List.foldl_assoc (op := combine op), hc]

theorem colFold_append (op : AggOp) (l1 l2 : List Col) :
    colFold op (l1 ++ l2) = combine op (colFold op l1) (colFold op l2) := by
  rw [colFold, List.foldl_append]
  exact foldl_combine op l2 _ (colFold_empty op l1).2

theorem foldl_parts {α σ : Type} (R : σ → List α → Prop) (step : σ → List α → σ)
    (h : ∀ s seen p, R s seen → R (step s p) (seen ++ p)) (parts : List (List α)) (s : σ) (seen : List α)
    (hs : R s seen) : R (parts.foldl step s) (seen ++ parts.flatten) := by
  induction parts generalizing s seen with
  | nil => simpa using hs
  | cons p ps ih => simpa using ih _ _ (h s seen p hs)

theorem colFold_flatten (op : AggOp) (parts : List (List Col)) :
    (parts.map (colFold op)).foldl (combine op) {} = colFold op parts.flatten := by
  rw [List.foldl_map]
  exact foldl_parts (fun c seen => c = colFold op seen) _ (fun c seen p h => by rw [h, colFold_append])
    parts {} [] rfl

theorem colFold_perm (op : AggOp) (ps qs : List Col) (hperm : ps.Perm qs)
    (hop : op = .count ∨ op = .sum ∨ op = .avg ∨ op = .min ∨ op = .max) : colFold op ps = colFold op qs :=
  hperm.foldl_eq' (fun x _ y _ z => by rw [combine_assoc, combine_assoc, combine_comm op x y hop]) _

end Dtail.C05
