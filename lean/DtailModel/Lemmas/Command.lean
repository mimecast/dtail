/-
Lemmas about the model of the command path (`Model/Command.lean`).  The option decoder is the iteration of one round
(`optStep`, `deserializeOptions_cons`); the envelope, the command word and its options are given with their index guards
discharged (`decodeEnvelope_eq`, `decodeArgs_eq`, `decodeParts_eq`), so that no other proof has to open these definitions.
-/
import DtailModel.Lemmas.GoStr
import DtailModel.Lemmas.NoPanic
import DtailModel.Lemmas.ListFacts
namespace Dtail

theorem splitN2_base64 (v : Bytes) (h : hasPrefix (b!"base64%") v = true) : (splitN2 PERCENT v).length = 2 := by
  obtain ⟨t, rfl⟩ := List.isPrefixOf_iff_prefix.1 h
  exact congrArg List.length (splitN2_append_sep PERCENT (b!"base64") t (by decide))

-- in the namespace of Lemmas/GenOptions.lean, which compares the translated `setOption` with these two
namespace GenOptions

def modelVal (env : Env) (val0 : Bytes) : Option Bytes :=
  if hasPrefix (b!"base64%") val0 then env.b64dec ((splitN2 PERCENT val0).getD 1 []) else some val0

def modelSet (key val : Bytes) (o : List (Bytes × Bytes)) (l : LCtx) : Option (List (Bytes × Bytes) × LCtx) :=
  if key = b!"before" then (atoi val).map fun i => (o, { l with before := i })
  else if key = b!"after" then (atoi val).map fun i => (o, { l with after := i })
  else if key = b!"max" then (atoi val).map fun i => (o, { l with maxc := i })
  else some (o.filter (·.1 ≠ key) ++ [(key, val)], l)

end GenOptions
open GenOptions

/-- one round of the loop of `config.DeserializeOptions` -/
def optStep (env : Env) (x : Bytes) (o : List (Bytes × Bytes)) (l : LCtx) : Outcome (List (Bytes × Bytes) × LCtx) :=
  let kv := splitN2 EQ x
  if kv.length ≠ 2 then .err "Unable to parse options" else
  match modelVal env (kv.getD 1 []) with
  | none => .err "illegal base64 data"
  | some val =>
    match modelSet (kv.getD 0 []) val o l with
    | none => .err "strconv.Atoi"
    | some r => .ok r

theorem deserializeOptions_nil (env : Env) (o : List (Bytes × Bytes)) (l : LCtx) :
    deserializeOptions env [] o l = .ok (o, l) := rfl

theorem deserializeOptions_cons (env : Env) (x : Bytes) (rest : List Bytes) (o : List (Bytes × Bytes)) (l : LCtx) :
    deserializeOptions env (x :: rest) o l
      = (optStep env x o l).bind fun r => deserializeOptions env rest r.1 r.2 := by
  rw [deserializeOptions, optStep]
  by_cases h2 : (splitN2 EQ x).length = 2
  · rw [if_neg (fun h => h h2), if_neg (fun h => h h2), goIndex_getD _ 0 [] (h2 ▸ Nat.zero_lt_two),
      goIndex_getD _ 1 [] (h2 ▸ Nat.one_lt_two)]
    generalize (splitN2 EQ x).getD 0 [] = k
    generalize (splitN2 EQ x).getD 1 [] = v
    simp -zeta only [bind, Outcome.bind]
    -- `jp`: what the `do` block does once the value is known
    extract_lets jp s
    have hjp : ∀ val, jp val = (match modelSet k val o l with
        | none => Outcome.err "strconv.Atoi"
        | some r => .ok r).bind fun r => deserializeOptions env rest r.1 r.2 := by
      intro val
      simp only [jp, modelSet]
      by_cases k1 : k = b!"before"
      · rw [if_pos k1, if_pos k1]; cases atoi val <;> rfl
      rw [if_neg k1, if_neg k1]
      by_cases k2 : k = b!"after"
      · rw [if_pos k2, if_pos k2]; cases atoi val <;> rfl
      rw [if_neg k2, if_neg k2]
      by_cases k3 : k = b!"max"
      · rw [if_pos k3, if_pos k3]; cases atoi val <;> rfl
      rw [if_neg k3, if_neg k3]
      rfl
    clear_value jp
    rw [modelVal]
    by_cases hb : hasPrefix (b!"base64%") v = true
    · -- a value with this prefix has a second part
      rw [if_pos hb, if_pos hb, goIndex_getD s 1 [] (by rw [splitN2_base64 v hb]; decide)]
      dsimp only
      cases env.b64dec _ with
      | none => rfl
      | some d => exact hjp d
    · rw [if_neg hb, if_neg hb]
      exact hjp v
  · rw [if_pos h2, if_pos h2]; rfl

theorem optStep_noPanic (env : Env) (x : Bytes) (o : List (Bytes × Bytes)) (l : LCtx) : (optStep env x o l).NoPanic := by
  unfold optStep
  dsimp only
  split
  · trivial
  · cases modelVal env _ with
    | none => trivial
    | some val => dsimp only; cases modelSet _ val o l <;> trivial

theorem deserializeOptions_append (env : Env) (a b : List Bytes) (o : List (Bytes × Bytes)) (l : LCtx) :
    deserializeOptions env (a ++ b) o l
      = (deserializeOptions env a o l).bind (fun r => deserializeOptions env b r.1 r.2) := by
  induction a generalizing o l with
  | nil => rfl
  | cons x xs ih =>
    rw [List.cons_append, deserializeOptions_cons, deserializeOptions_cons, Outcome.bind_assoc]
    exact congrArg _ (funext fun r => ih r.1 r.2)

namespace GenOptions

theorem model_cons (env : Env) (x : Bytes) (rest : List Bytes) (o : List (Bytes × Bytes)) (l : LCtx) (k v : Bytes)
    (hkv : splitN2 EQ x = [k, v]) :
    deserializeOptions env (x :: rest) o l =
      match modelVal env v with
      | none => .err "illegal base64 data"
      | some val => match modelSet k val o l with
        | some (o', l') => deserializeOptions env rest o' l'
        | none => .err "strconv.Atoi" := by
  rw [deserializeOptions_cons, optStep, hkv, if_neg (fun h => h rfl)]
  show Outcome.bind (match modelVal env v with
    | none => .err "illegal base64 data"
    | some val => match modelSet k val o l with
      | none => .err "strconv.Atoi"
      | some r => .ok r) _ = _
  cases modelVal env v with
  | none => rfl
  | some val => dsimp only; cases modelSet k val o l <;> rfl

end GenOptions

/-- what is asked of `show'`, the `%d` of `SerializeOptions` (a parameter: `fmt` is outside the model) -/
structure IntCodec (show' : Int → Bytes) : Prop where
  atoi_show : ∀ n, atoi (show' n) = some n
  noB64 : ∀ n, hasPrefix (b!"base64%") (show' n) = false

def modesOf (o : List (Bytes × Bytes)) : Bool × Bool × Bool :=
  let get (k : Bytes) := (o.find? (·.1 = k)).map (·.2) = some (b!"true")
  (get (b!"quiet"), get (b!"plain"), get (b!"serverless"))

theorem modesOf_store (o : List (Bytes × Bytes)) (k : Bytes) :
    modesOf (o.filter (·.1 ≠ k) ++ [(k, b!"true")])
      = (decide (b!"quiet" = k) || (modesOf o).1, decide (b!"plain" = k) || (modesOf o).2.1,
          decide (b!"serverless" = k) || (modesOf o).2.2) := by
  have hd (c : Prop) [Decidable c] (x : Option Bytes) :
      decide ((if c then some (b!"true") else x) = some (b!"true")) = (decide c || decide (x = some (b!"true"))) := by
    by_cases h : c <;> simp [h]
  simp only [modesOf, find?_store, hd]

theorem decodeEnvelope_eq (env : Env) (args : List Bytes) (h0 : args ≠ []) :
    decodeEnvelope env args =
      if 2 < args.length ∧ args.getD 0 [] = b!"protocol" then
        if args.getD 1 [] = Facts.protocolCompatBytes then
          if (args.drop 2).length = 2 ∧ (args.drop 2).getD 0 [] = b!"base64" then
            match env.b64dec ((args.drop 2).getD 1 []) with
            | none => .err "illegal base64 data"
            | some decoded => decodeInner env decoded
          else .err "unable to decode client message"
        else .err "protocol version mismatch"
      else .err "unable to determine protocol version" := by
  unfold decodeEnvelope
  have hpos : 0 < args.length := List.length_pos_iff.2 h0
  -- the guards of the code are the negations of the tests here
  have neg (n k : Nat) (x y : Bytes) : (n ≤ k ∨ x ≠ y) ↔ ¬ (k < n ∧ x = y) := by
    rw [Decidable.not_and_iff_not_or_not, Nat.not_lt]
  have neg' (n k : Nat) (x y : Bytes) : (n ≠ k ∨ x ≠ y) ↔ ¬ (n = k ∧ x = y) := Decidable.not_and_iff_not_or_not.symm
  simp only [bind, Outcome.bind, goIndex_getD args 0 [] hpos, neg, neg', ne_eq, ite_not]
  by_cases h1 : 2 < args.length ∧ args.getD 0 [] = b!"protocol"
  · rw [if_pos h1, if_pos h1]
    simp only [goIndex_getD args 1 [] (by omega), goSliceFrom_of_le args 2 (by omega)]
    by_cases h2 : args.getD 1 [] = Facts.protocolCompatBytes
    · rw [if_pos h2, if_pos h2]
      simp only [goIndex_getD (args.drop 2) 0 [] (by rw [List.length_drop]; omega), ← List.length_drop]
      by_cases h3 : (args.drop 2).length = 2 ∧ (args.drop 2).getD 0 [] = b!"base64"
      · rw [if_pos h3, if_pos h3]
        simp only [goIndex_getD (args.drop 2) 1 [] (by omega)]
        rfl
      · rw [if_neg h3, if_neg h3]
    · rw [if_neg h2, if_neg h2]
  · rw [if_neg h1, if_neg h1]

theorem decodeArgs_eq (env : Env) (args : List Bytes) (h0 : args ≠ []) :
    decodeArgs env args = decodeParts env args (splitOnByte COLON (args.getD 0 [])) := by
  unfold decodeArgs
  rw [goIndex_getD args 0 [] (List.length_pos_iff.2 h0)]
  rfl

theorem decodeParts_eq (env : Env) (args parts : List Bytes) (hp : parts ≠ []) :
    decodeParts env args parts =
      if parts.length = 1 ∨ (parts.getD 1 []).length = 0 then .ok { name := parts.getD 0 [], argc := args.length, args }
      else (deserializeOptions env (parts.drop 1) [] {}).bind fun r =>
        .ok { name := parts.getD 0 [], argc := args.length, args, ltx := r.2, options := some r.1 } := by
  unfold decodeParts
  have hpos : 0 < parts.length := List.length_pos_iff.2 hp
  simp only [bind, Outcome.bind, pure, goIndex_getD parts 0 [] hpos]
  by_cases h1 : parts.length = 1
  · simp only [h1, if_true, true_or]
  · have h2 : 1 < parts.length := by omega
    simp only [h1, if_false, false_or, goIndex_getD parts 1 [] h2, goSliceFrom_of_le parts 1 (by omega)]
    by_cases h3 : (parts.getD 1 []).length = 0
    · simp only [h3, decide_true, if_true]
    · simp only [h3, decide_false, if_false, Bool.false_eq_true]

theorem regexSerialize_eq (pattern : Bytes) (invert : Bool) :
    regexSerialize pattern invert = (b!"regex:" ++ flagName (clientFlag pattern invert)) ++ SP ::
      (if clientFlag pattern invert = .noop then [] else pattern) := by
  simp [regexSerialize]

theorem flagName_nospace (f : RFlag) : SP ∉ b!"regex:" ++ flagName f := by cases f <;> decide

/-- all but `x` is closed, so each flag goes by evaluation -/
theorem regexDeserialize_wire (env : Env) (f : RFlag) (hf : f ≠ .undefined) (x : Bytes) :
    regexDeserialize env ((b!"regex:" ++ flagName f) ++ SP :: x)
      = if !env.compiles x then .err "error parsing regexp" else .ok ⟨x, f⟩ := by
  rw [regexDeserialize, splitN2_append_sep SP _ _ (flagName_nospace _)]
  cases f with
  | undefined => exact absurd rfl hf
  | default | invert | noop => rfl

/-- What the server decodes from what the client sent: for a command made of any option texts that decode (to `o` and
    `l`) and hold no blank or ':', the server finds the command word, the file and the words of the regex where the client
    put them; without options `handleOptions` is not called (`options = none`). -/
theorem decodeCommand_sent (env : Env) (b64enc : Bytes → Bytes) (r : Req) (opts : List Bytes)
    (o : List (Bytes × Bytes)) (l : LCtx) (hdec : deserializeOptions env opts [] {} = .ok (o, l))
    (hb64 : ∀ s, env.b64dec (b64enc s) = some s) (hb64sp : ∀ s, SP ∉ b64enc s)
    (hmode : SP ∉ r.mode ∧ COLON ∉ r.mode) (hfile : SP ∉ r.file) (hopts : ∀ x ∈ opts, SP ∉ x ∧ COLON ∉ x) :
    decodeCommand env (b!"protocol " ++ Facts.protocolCompatBytes ++ b!" base64 " ++ b64enc (makeCommand r opts))
      = .ok { name := r.mode, argc := (splitOnByte SP (regexSerialize r.pattern r.invert)).length + 2,
              args := (r.mode ++ COLON :: joinByte COLON opts) :: r.file
                :: splitOnByte SP (regexSerialize r.pattern r.invert),
              ltx := l, options := if opts = [] then none else some o } := by
  have henv : splitOnByte SP (b!"protocol " ++ Facts.protocolCompatBytes ++ b!" base64 " ++ b64enc (makeCommand r opts))
      = [b!"protocol", Facts.protocolCompatBytes, b!"base64", b64enc (makeCommand r opts)] := by
    -- the same bytes, written word by word (the three literal words hold no blank)
    show splitOnByte SP (b!"protocol" ++ SP :: (Facts.protocolCompatBytes ++ SP :: (b!"base64" ++ SP
      :: b64enc (makeCommand r opts)))) = _
    rw [splitOnByte_append_sep SP _ _ (by decide), splitOnByte_append_sep SP _ _ (by decide),
      splitOnByte_append_sep SP _ _ (by decide), splitOnByte_nosep SP _ (hb64sp _)]
  have hhead : SP ∉ r.mode ++ COLON :: joinByte COLON opts :=
    List.not_mem_append hmode.1 (List.not_mem_cons_of_ne_of_not_mem (by decide)
      (not_mem_joinByte SP COLON _ (by decide) fun y hy => (hopts y hy).1))
  have hargs : splitOnByte SP (makeCommand r opts)
      = (r.mode ++ COLON :: joinByte COLON opts) :: r.file :: splitOnByte SP (regexSerialize r.pattern r.invert) := by
    have e : makeCommand r opts
        = (r.mode ++ COLON :: joinByte COLON opts) ++ SP :: (r.file ++ SP :: regexSerialize r.pattern r.invert) := by
      simp [makeCommand]
    rw [e, splitOnByte_append_sep SP _ _ hhead, splitOnByte_append_sep SP _ _ hfile]
  rw [decodeCommand, henv, decodeEnvelope_eq _ _ (List.cons_ne_nil _ _)]
  simp only [List.length_cons, List.length_nil, List.getD_cons_zero, List.getD_cons_succ, List.drop_succ_cons, List.drop_zero,
    Nat.reduceAdd, Nat.reduceLT, and_self, if_true, hb64, decodeInner]
  rw [hargs, decodeArgs_eq _ _ (List.cons_ne_nil _ _), List.getD_cons_zero, splitOnByte_append_sep COLON _ _ hmode.2,
    decodeParts_eq _ _ _ (List.cons_ne_nil _ _)]
  cases opts with
  | nil => cases hdec; exact if_pos (Or.inr rfl)
  | cons o1 orest =>
    -- an empty first option would not have decoded
    have ho1 : o1.length ≠ 0 := by
      intro h0
      rw [List.eq_nil_of_length_eq_zero h0, deserializeOptions_cons] at hdec
      cases hdec
    rw [splitOnByte_joinByte COLON _ (List.cons_ne_nil _ _) fun y hy => (hopts y hy).2, if_neg (by simpa using ho1)]
    show (deserializeOptions env (o1 :: orest) [] {}).bind _ = _
    rw [hdec]
    rfl

end Dtail
