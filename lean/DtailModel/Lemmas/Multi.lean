/-
The client with several connections (Model/Multi.lean) seen from one of them: a byte for connection `j` is a byte for the
single client of `j` and invisible to every other connection, so the view of a connection after any schedule is the
single client fed with that connection's stream.
-/
import DtailModel.Model.Multi
import DtailModel.Lemmas.Wire
namespace Dtail

theorem projConn_byte (i j : Nat) (s : MultiState) (b : UInt8) :
    projConn i (multiByte j s b) = if j = i then clientByte (projConn i s) b else projConn i s := by
  unfold multiByte clientByte projConn
  by_cases hji : j = i
  · subst hji
    by_cases h1 : b = NL
    · simp [h1, List.filter_append]
    · by_cases h2 : b = DELIM <;> simp [h1, h2, delim_ne_nl, List.filter_append]
  · have hij : ¬ i = j := fun e => hji e.symm
    by_cases h1 : b = NL
    · simp [h1, hij, hji, List.filter_append]
    · by_cases h2 : b = DELIM <;> simp [h1, h2, delim_ne_nl, hij, hji, List.filter_append]

theorem projConn_chunk (i : Nat) (s : MultiState) (c : Nat × Bytes) :
    projConn i (multiChunk s c) = if c.1 = i then clientFeed (projConn i s) c.2 else projConn i s := by
  obtain ⟨j, bs⟩ := c
  unfold multiChunk clientFeed
  induction bs generalizing s with
  | nil => simp
  | cons b rest ih =>
    rw [List.foldl_cons, ih, projConn_byte]
    by_cases h : j = i <;> simp [h]

theorem projConn_sched (i : Nat) (sched : List (Nat × Bytes)) (s : MultiState) :
    projConn i (sched.foldl multiChunk s) = clientFeed (projConn i s) (streamOf i sched) := by
  induction sched generalizing s with
  | nil => rfl
  | cons c rest ih =>
    rw [List.foldl_cons, ih, projConn_chunk]
    by_cases h : c.1 = i <;> simp [h, streamOf, clientFeed, List.foldl_append]

end Dtail
