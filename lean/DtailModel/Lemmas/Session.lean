/-
Safety side of the session transition system (C02): the step function as a relation, the invariant `SessInv`, and
its preservation by every step.
-/
import DtailModel.Model.Session
import DtailModel.Lemmas.LTS
namespace Dtail

theorem sessIsRun : IsRun sessStep sessRun := ⟨fun _ => rfl, fun _ _ _ => rfl⟩

/-- `sessStep` as a relation: one rule per label, its guards as premises -/
inductive SessStep (s : Sess) : SLabel → Sess → Prop
  | recv {c} : s.phase ≠ .closed → s.cmds[c]? = some .notSent →
      SessStep s (.recv c) { s with cmds := s.cmds.set c (.reading 1), lateRecv := s.lateRecv || (s.phase != .running) }
  | push {c k n} : s.cmds[c]? = some (.reading k) → s.sizes[c]? = some n → k ≤ n → s.queue.length < queueCap →
      s.phase ≠ .closed →
      SessStep s (.push c) { s with cmds := s.cmds.set c (.reading (k + 1)), queue := s.queue ++ [(c, k)] }
  | finish {c k n} : s.cmds[c]? = some (.reading k) → s.sizes[c]? = some n → k = n + 1 → s.phase ≠ .closed →
      SessStep s (.finish c)
        { s with cmds := s.cmds.set c .done, phase := phaseAfterFinish (s.cmds.set c .done) s.phase }
  | deliver {x rest} : s.queue = x :: rest → s.phase ≠ .closed →
      SessStep s .deliver { s with queue := rest, delivered := s.delivered ++ [x] }
  | flushDone : s.phase = .flushing → s.queue = [] → SessStep s .flushDone { s with phase := .synQueued }
  | deliverSyn : s.phase = .synQueued → SessStep s .deliverSyn { s with phase := .closed }

theorem sessStep_iff {s s' : Sess} {l : SLabel} : sessStep s l = some s' ↔ SessStep s l s' := by
  constructor
  · fun_cases sessStep s l
    -- the branches that return `none` go; one goal per label is left, `hc` its test and `‹_›` the equations of its matches
    all_goals intro h; cases h
    all_goals rename_i hc
    · exact .recv hc.1 hc.2
    · exact .push ‹_› ‹_› hc.1 hc.2.1 hc.2.2
    · exact .finish ‹_› ‹_› hc.1 hc.2
    · exact .deliver ‹_› hc
    · exact .flushDone hc.1 hc.2
    · exact .deliverSyn hc
  · intro h
    cases h <;> simp [sessStep, *]

theorem linesUpTo_succ (c k : Nat) (hk : 1 ≤ k) : linesUpTo c (k + 1) = linesUpTo c k ++ [(c, k)] := by
  obtain ⟨j, rfl⟩ : ∃ j, k = j + 1 := ⟨k - 1, by omega⟩
  simp only [linesUpTo, Nat.add_sub_cancel, List.range_succ, List.map_append, List.map_cons, List.map_nil]

theorem activeCount_pos_of_reading (cs : List CmdSt) (c k : Nat) (h : cs[c]? = some (.reading k)) :
    0 < activeCount cs :=
  List.length_pos_of_mem (List.mem_filter.2 ⟨List.mem_of_getElem? h, rfl⟩)

theorem activeCount_set (cs : List CmdSt) (c : Nat) (old new : CmdSt) (h : cs[c]? = some old) :
    activeCount (cs.set c new) + (if isReading old then 1 else 0) = activeCount cs + (if isReading new then 1 else 0) :=
  length_filter_set isReading new h

/-- What every reachable session satisfies.  `lines`: what the client has received or the queue holds of command `c` is its
    lines 1 … next − 1, in order, each once; `range`: a reading command's next line number lies within the file (one past its end
    when it is read out); `quiet`: unless a command arrived after the session had gone idle, once the phase has left `running` no
    reader is active; `drained`: and once `.syn` is queued or the session is closed, no line is left in the queue. -/
structure SessInv (s : Sess) : Prop where
  len : s.cmds.length = s.sizes.length
  lines : ∀ (c : Nat), (s.delivered ++ s.queue).filter (fun x => x.1 = c) = linesUpTo c (nextOf s c)
  range : ∀ (c k n : Nat), s.cmds[c]? = some (CmdSt.reading k) → s.sizes[c]? = some n → 1 ≤ k ∧ k ≤ n + 1
  quiet : s.lateRecv = false → s.phase ≠ .running → activeCount s.cmds = 0
  drained : s.lateRecv = false → (s.phase = .synQueued ∨ s.phase = .closed) → s.queue = []

theorem nextOfC_set_other (cmds : List CmdSt) (sizes : List Nat) (c c' : Nat) (st : CmdSt) (h : c' ≠ c) :
    nextOfC (cmds.set c st) sizes c' = nextOfC cmds sizes c' := by
  unfold nextOfC
  simp [Ne.symm h]

theorem nextOfC_set_reading (cmds : List CmdSt) (sizes : List Nat) (c k : Nat) (h : c < cmds.length) :
    nextOfC (cmds.set c (.reading k)) sizes c = k := by
  unfold nextOfC; simp [h]

theorem nextOfC_set_done (cmds : List CmdSt) (sizes : List Nat) (c n : Nat) (h : c < cmds.length)
    (hn : sizes[c]? = some n) : nextOfC (cmds.set c .done) sizes c = n + 1 := by
  unfold nextOfC; simp [h, hn]

theorem nextOfC_reading (cmds : List CmdSt) (sizes : List Nat) (c k : Nat) (h : cmds[c]? = some (.reading k)) :
    nextOfC cmds sizes c = k := by unfold nextOfC; simp [h]

theorem nextOfC_notSent (cmds : List CmdSt) (sizes : List Nat) (c : Nat) (h : cmds[c]? = some .notSent) :
    nextOfC cmds sizes c = 1 := by unfold nextOfC; simp [h]

theorem nextOfC_done (cmds : List CmdSt) (sizes : List Nat) (c n : Nat) (h : cmds[c]? = some .done)
    (hn : sizes[c]? = some n) : nextOfC cmds sizes c = n + 1 := by unfold nextOfC; simp [h, hn]

theorem sessInit_inv (sizes : List Nat) : SessInv (sessInit sizes) := by
  refine ⟨by simp [sessInit], fun c => ?_, fun c k n h _ => (nomatch eq_of_getElem?_replicate h),
    fun _ h => absurd rfl h, fun _ h => by simp [sessInit] at h⟩
  simp only [sessInit, List.append_nil, List.filter_nil, nextOf, nextOfC]
  cases h : (List.replicate sizes.length CmdSt.notSent)[c]? with
  | none => simp [linesUpTo]
  | some st => rw [eq_of_getElem?_replicate h]; simp [linesUpTo]

theorem range_set {cmds : List CmdSt} {sizes : List Nat} (c : Nat) (st : CmdSt)
    (hr : ∀ (c k n : Nat), cmds[c]? = some (CmdSt.reading k) → sizes[c]? = some n → 1 ≤ k ∧ k ≤ n + 1)
    (hst : ∀ k n, st = .reading k → sizes[c]? = some n → 1 ≤ k ∧ k ≤ n + 1) (c' k n : Nat)
    (hk : (cmds.set c st)[c']? = some (CmdSt.reading k)) (hn : sizes[c']? = some n) : 1 ≤ k ∧ k ≤ n + 1 := by
  rw [List.getElem?_set] at hk
  split at hk
  · subst c'; split at hk
    · exact hst k n (Option.some.inj hk) hn
    · cases hk
  · exact hr c' k n hk hn

theorem running_of_reading {s : Sess} {c k : Nat} (hc : s.cmds[c]? = some (.reading k))
    (hquiet : s.lateRecv = false → s.phase ≠ .running → activeCount s.cmds = 0) (hl : s.lateRecv = false) :
    s.phase = .running :=
  Decidable.byContradiction fun hp => by
    have := hquiet hl hp
    have := activeCount_pos_of_reading s.cmds c k hc
    omega

/-- `commandFinished`, the two ways it can go: the last active command of a running session has ended and shutdown()
    begins, or the phase stays what it was -/
theorem phaseAfterFinish_cases (cmds : List CmdSt) (p : SPhase) :
    (activeCount cmds = 0 ∧ p = .running ∧ phaseAfterFinish cmds p = .flushing) ∨
    (¬(activeCount cmds = 0 ∧ p = .running) ∧ phaseAfterFinish cmds p = p) := by
  by_cases h : activeCount cmds = 0 ∧ p = .running
  · exact .inl ⟨h.1, h.2, if_pos h⟩
  · exact .inr ⟨h, if_neg h⟩

theorem sessStep_inv (s s' : Sess) (l : SLabel) (h : SessInv s) (hs : sessStep s l = some s') : SessInv s' := by
  obtain ⟨hlen, hlines, hrange, hquiet, hdrained⟩ := h
  cases sessStep_iff.1 hs with
  | @recv c hopen hc =>
    -- a command not sent and a command reading at line 1 have got equally far
    have hnext c' : nextOfC (s.cmds.set c (.reading 1)) s.sizes c' = nextOf s c' := by
      by_cases hcc : c' = c
      · rw [hcc, nextOfC_set_reading _ _ _ _ (lt_length_of_getElem? hc)]; exact (nextOfC_notSent _ _ _ hc).symm
      · exact nextOfC_set_other _ _ _ _ _ hcc
    -- a command that arrives in another phase than `running` is late
    have hrun : (s.lateRecv || s.phase != .running) = false → s.phase = .running := by simp
    exact ⟨by simp [hlen], fun c' => (hlines c').trans (congrArg _ (hnext c').symm),
      range_set c _ hrange (fun k n hk _ => by cases hk; omega),
      fun hl hp => absurd (hrun hl) hp, fun hl hp => hdrained (Bool.or_eq_false_iff.1 hl).1 hp⟩
  | @push c k n hc hn hk hcap hopen =>
    have hr := hrange c k n hc hn
    have hrun := running_of_reading hc hquiet
    refine ⟨by simp [hlen], fun c' => ?_, range_set c _ hrange (fun k' n' hk' hn' => ?_),
      fun hl hp => absurd (hrun hl) hp, fun hl hp => ?_⟩
    · show List.filter _ (s.delivered ++ (s.queue ++ [(c, k)])) = linesUpTo c' (nextOfC (s.cmds.set c _) s.sizes c')
      rw [← List.append_assoc, List.filter_append, hlines c']
      by_cases hcc : c' = c
      · subst hcc
        rw [nextOfC_set_reading _ _ _ _ (lt_length_of_getElem? hc), linesUpTo_succ c' k hr.1, nextOf,
          nextOfC_reading _ _ _ _ hc]
        simp
      · rw [nextOfC_set_other _ _ _ _ _ hcc]
        simp [nextOf, Ne.symm hcc]
    · cases hk'; rw [hn] at hn'; cases hn'; omega
    · rcases hp with hp | hp <;> exact absurd ((hrun hl).symm.trans hp) (by simp)
  | @finish c k n hc hn hk hopen =>
    -- a command read out and a command done have got equally far
    have hnext c' : nextOfC (s.cmds.set c .done) s.sizes c' = nextOf s c' := by
      by_cases hcc : c' = c
      · rw [hcc, nextOfC_set_done _ _ _ _ (lt_length_of_getElem? hc) hn, ← hk]; exact (nextOfC_reading _ _ _ _ hc).symm
      · exact nextOfC_set_other _ _ _ _ _ hcc
    have hrun := running_of_reading hc hquiet
    refine ⟨by simp [hlen], fun c' => (hlines c').trans (congrArg _ (hnext c').symm),
      range_set c _ hrange (fun k n hk _ => by cases hk), fun hl hp => ?_, fun hl hp => ?_⟩
    -- the phase leaves `running` only when no command is active any more,
    · dsimp only at hp
      rcases phaseAfterFinish_cases (s.cmds.set c .done) s.phase with ⟨hnone, -, -⟩ | ⟨-, hsame⟩
      · exact hnone
      · exact absurd (hsame.trans (hrun hl)) hp
    -- and then for `flushing`, with lines still queued or not
    · dsimp only at hp
      rcases phaseAfterFinish_cases (s.cmds.set c .done) s.phase with ⟨-, -, hflush⟩ | ⟨-, hsame⟩
      · rw [hflush] at hp; simp at hp
      · rw [hsame] at hp; exact hdrained hl hp
  | @deliver x rest hq hopen =>
    refine ⟨hlen, fun c => ?_, hrange, hquiet, fun hl hp => ?_⟩
    · show List.filter _ ((s.delivered ++ [x]) ++ rest) = _
      rw [List.append_assoc, List.singleton_append, ← hq]; exact hlines c
    · have := hdrained hl hp
      rw [hq] at this; cases this
  | flushDone hp hq =>
    exact ⟨hlen, hlines, hrange, fun hl _ => hquiet hl (by rw [hp]; simp), fun _ _ => hq⟩
  | deliverSyn hp =>
    exact ⟨hlen, hlines, hrange, fun hl _ => hquiet hl (by rw [hp]; simp), fun hl _ => hdrained hl (Or.inl hp)⟩

end Dtail
