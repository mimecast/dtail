/-
`SerializeOptions` emits the options in the iteration order of a Go map: any permutation.  `deserializeOptions` decodes
every permutation of a request's option list to the same line context and session modes (`any_order`).  Decoding is a fold
of per-option steps (`decode_list`); what a session can see of the decoder's state (`view`) is changed by an option in a way
that depends on nothing else (`view_apply`), and there options of different kinds commute.
-/
import DtailModel.Lemmas.Command
namespace Dtail.OptionOrder
open GenOptions

inductive Opt where
  | quiet | plain | serverless
  | max (n : Int) | before (n : Int) | after (n : Int)
  deriving Repr, DecidableEq

def Opt.kind : Opt → Nat
  | .quiet => 0 | .plain => 1 | .serverless => 2 | .max _ => 3 | .before _ => 4 | .after _ => 5

def render (show' : Int → Bytes) : Opt → Bytes
  | .quiet => b!"quiet=true" | .plain => b!"plain=true" | .serverless => b!"serverless=true"
  | .max n => b!"max=" ++ show' n | .before n => b!"before=" ++ show' n | .after n => b!"after=" ++ show' n

/-- what decoding one option does to the decoder's state -/
def apply (s : List (Bytes × Bytes) × LCtx) : Opt → List (Bytes × Bytes) × LCtx
  | .quiet => (s.1.filter (·.1 ≠ b!"quiet") ++ [(b!"quiet", b!"true")], s.2)
  | .plain => (s.1.filter (·.1 ≠ b!"plain") ++ [(b!"plain", b!"true")], s.2)
  | .serverless => (s.1.filter (·.1 ≠ b!"serverless") ++ [(b!"serverless", b!"true")], s.2)
  | .max n => (s.1, { s.2 with maxc := n })
  | .before n => (s.1, { s.2 with before := n })
  | .after n => (s.1, { s.2 with after := n })

def Opt.key : Opt → Bytes
  | .quiet => b!"quiet" | .plain => b!"plain" | .serverless => b!"serverless"
  | .max _ => b!"max" | .before _ => b!"before" | .after _ => b!"after"

def Opt.val (show' : Int → Bytes) : Opt → Bytes
  | .quiet | .plain | .serverless => b!"true"
  | .max n | .before n | .after n => show' n

theorem kind_eq_of_key_eq {x y : Opt} (h : x.key = y.key) : x.kind = y.kind := by
  have idx (x : Opt) : [b!"quiet", b!"plain", b!"serverless", b!"max", b!"before", b!"after"].idxOf x.key = x.kind := by
    cases x <;> rfl
  rw [← idx x, ← idx y, h]

theorem render_eq (show' : Int → Bytes) (x : Opt) : render show' x = x.key ++ EQ :: x.val show' := by
  cases x <;> rfl

theorem splitN2_render (show' : Int → Bytes) (x : Opt) : splitN2 EQ (render show' x) = [x.key, x.val show'] := by
  rw [render_eq]
  exact splitN2_append_sep EQ _ _ (by cases x <;> (dsimp only [Opt.key]; decide))

theorem colon_notMem_render (show' : Int → Bytes) (h : ∀ n, COLON ∉ show' n) (x : Opt) : COLON ∉ render show' x := by
  cases x with
  | quiet | plain | serverless => dsimp only [render]; decide
  | max n | before n | after n => exact List.not_mem_append (by decide) (h n)

/-- what the theorems below need of `show'`, for the integer of this one option; `IntCodec` asks it of every integer -/
def Readable (show' : Int → Bytes) : Opt → Prop
  | .max n | .before n | .after n => atoi (show' n) = some n ∧ hasPrefix (b!"base64%") (show' n) = false
  | _ => True

theorem _root_.Dtail.IntCodec.readable {show' : Int → Bytes} (hc : IntCodec show') (x : Opt) : Readable show' x := by
  cases x with
  | quiet | plain | serverless => trivial
  | max n | before n | after n => exact ⟨hc.atoi_show n, hc.noB64 n⟩

theorem optStep_render (env : Env) (show' : Int → Bytes) (x : Opt) (hx : Readable show' x) (o : List (Bytes × Bytes))
    (l : LCtx) : optStep env (render show' x) o l = .ok (apply (o, l) x) := by
  have hv : modelVal env (x.val show') = some (x.val show') := by
    have : hasPrefix (b!"base64%") (x.val show') = false := by
      cases x with
      | quiet | plain | serverless => rfl
      | max n | before n | after n => exact hx.2
    simp [modelVal, this]
  have hs : modelSet x.key (x.val show') o l = some (apply (o, l) x) := by
    cases x with
    | quiet | plain | serverless => rfl
    | max n | before n | after n => simp [modelSet, Opt.key, Opt.val, hx.1]; rfl
  rw [optStep, splitN2_render]
  simp only [List.length_cons, List.length_nil, ne_eq, not_true_eq_false, if_false, List.getD_cons_zero,
    List.getD_cons_succ, hv, hs]

theorem decode_list_of_readable (env : Env) (show' : Int → Bytes) (xs : List Opt) (hx : ∀ x ∈ xs, Readable show' x)
    (o : List (Bytes × Bytes)) (l : LCtx) :
    deserializeOptions env (xs.map (render show')) o l = .ok (xs.foldl apply (o, l)) := by
  induction xs generalizing o l with
  | nil => rfl
  | cons x rest ih =>
    rw [List.map_cons, deserializeOptions_cons, optStep_render env show' x (hx x List.mem_cons_self)]
    exact ih (fun y hy => hx y (List.mem_cons_of_mem _ hy)) _ _

theorem decode_list (env : Env) (show' : Int → Bytes) (hc : IntCodec show') (xs : List Opt) (o : List (Bytes × Bytes)) (l : LCtx) :
    deserializeOptions env (xs.map (render show')) o l = .ok (xs.foldl apply (o, l)) :=
  decode_list_of_readable env show' xs (fun x _ => hc.readable x) o l

/-- two decoder states that a session cannot tell apart: `view` has the same value on both (`same_iff`) -/
def Same (s t : List (Bytes × Bytes) × LCtx) : Prop := s.2 = t.2 ∧ modesOf s.1 = modesOf t.1

/-- what a session sees of a decoder state -/
def view (s : List (Bytes × Bytes) × LCtx) : LCtx × Bool × Bool × Bool := (s.2, modesOf s.1)

def act (v : LCtx × Bool × Bool × Bool) : Opt → LCtx × Bool × Bool × Bool
  | .quiet => (v.1, true, v.2.2)
  | .plain => (v.1, v.2.1, true, v.2.2.2)
  | .serverless => (v.1, v.2.1, v.2.2.1, true)
  | .max n => ({ v.1 with maxc := n }, v.2)
  | .before n => ({ v.1 with before := n }, v.2)
  | .after n => ({ v.1 with after := n }, v.2)

theorem same_iff (s t : List (Bytes × Bytes) × LCtx) : Same s t ↔ view s = view t := Prod.mk.injEq .. ▸ Iff.rfl

theorem view_apply (s : List (Bytes × Bytes) × LCtx) (x : Opt) : view (apply s x) = act (view s) x := by
  cases x with
  | quiet | plain | serverless => simp only [view, apply, modesOf_store]; rfl
  | max n | before n | after n => rfl

-- `view_apply` and `act_comm` (below) said of decoder states, up to `Same`; `any_order_of_readable` uses those two directly
theorem apply_congr (s t : List (Bytes × Bytes) × LCtx) (h : Same s t) (x : Opt) : Same (apply s x) (apply t x) := by
  rw [same_iff] at h ⊢
  rw [view_apply, view_apply, h]

theorem act_comm (v : LCtx × Bool × Bool × Bool) (x y : Opt) (hk : x.kind ≠ y.kind) :
    act (act v x) y = act (act v y) x := by
  -- options of different kinds write different components; the same kind twice is excluded by `hk`
  cases x <;> cases y <;> first | rfl | exact absurd rfl hk

theorem apply_comm (s : List (Bytes × Bytes) × LCtx) (x y : Opt) (hk : x.kind ≠ y.kind) :
    Same (apply (apply s x) y) (apply (apply s y) x) := by
  rw [same_iff]
  simp only [view_apply]
  exact act_comm _ x y hk

def optsOf (r : Req) : List Opt :=
  (if r.quiet then [Opt.quiet] else []) ++ (if r.plain then [Opt.plain] else [])
  ++ (if r.serverless then [Opt.serverless] else [])
  ++ (if r.ltx.maxc ≠ 0 then [Opt.max r.ltx.maxc] else [])
  ++ (if r.ltx.before ≠ 0 then [Opt.before r.ltx.before] else [])
  ++ (if r.ltx.after ≠ 0 then [Opt.after r.ltx.after] else [])

theorem optsOf_render (show' : Int → Bytes) (r : Req) : (optsOf r).map (render show') = optionList show' r := by
  simp only [optsOf, optionList, List.map_append, apply_ite (List.map (render show')), List.map_cons, List.map_nil, render]

theorem ite_sublist {α : Type} (c : Prop) [Decidable c] (x : α) : (if c then [x] else []).Sublist [x] := by
  split
  · exact List.Sublist.refl _
  · exact List.nil_sublist _

theorem optsOf_nodup (r : Req) : ((optsOf r).map Opt.kind).Nodup := by
  have : ((optsOf r).map Opt.kind).Sublist [0, 1, 2, 3, 4, 5] := by
    simp only [optsOf, List.map_append, apply_ite (List.map Opt.kind), List.map_cons, List.map_nil, Opt.kind]
    exact (((((ite_sublist _ 0).append (ite_sublist _ 1)).append (ite_sublist _ 2)).append (ite_sublist _ 3)).append
      (ite_sublist _ 4)).append (ite_sublist _ 5)
  exact this.nodup (by decide)

theorem foldl_optsOf (r : Req) :
    (optsOf r).foldl act ({}, false, false, false) = (r.ltx, r.quiet, r.plain, r.serverless) := by
  obtain ⟨_, q, p, s, ⟨b, a, m⟩, _, _, _⟩ := r
  -- an option that is not sent leaves its field at the default, which is then the request's value (`0`, `false`)
  have hint : ∀ v : Bool × Bool × Bool, (if a ≠ 0 then [Opt.after a] else []).foldl act
      ((if b ≠ 0 then [Opt.before b] else []).foldl act ((if m ≠ 0 then [Opt.max m] else []).foldl act ({}, v)))
        = (⟨b, a, m⟩, v) := by
    intro v
    by_cases hm : m = 0 <;> by_cases hb : b = 0 <;> by_cases ha : a = 0 <;> simp [hm, hb, ha, act]
  simp only [optsOf, List.foldl_append]
  cases q <;> cases p <;> cases s <;> exact hint _

theorem any_order_of_readable (env : Env) (show' : Int → Bytes) (r : Req) (hr : ∀ x ∈ optsOf r, Readable show' x)
    (ys : List Opt) (hp : ys.Perm (optsOf r)) :
    ∃ o, deserializeOptions env (ys.map (render show')) [] {} = .ok (o, r.ltx) ∧
      modesOf o = (r.quiet, r.plain, r.serverless) := by
  -- the options of a request have pairwise different kinds, so their actions on the view commute
  have hn : ys.Pairwise fun x y => ∀ v, act (act v x) y = act (act v y) x :=
    (List.pairwise_map.1 ((hp.map Opt.kind).nodup_iff.2 (optsOf_nodup r))).imp fun hk v => act_comm v _ _ hk
  have hv : view (ys.foldl apply ([], {})) = (r.ltx, r.quiet, r.plain, r.serverless) :=
    calc view (ys.foldl apply ([], {}))
      _ = ys.foldl act (view ([], {})) := (List.foldl_hom view fun s x => (view_apply s x).symm).symm
      _ = (optsOf r).foldl act (view ([], {})) := foldl_perm_of_pairwise hp hn _
      _ = (r.ltx, r.quiet, r.plain, r.serverless) := foldl_optsOf r
  obtain ⟨hl, hm⟩ := Prod.mk.inj hv
  rw [decode_list_of_readable env show' ys fun y hy => hr y (hp.subset hy)]
  exact ⟨(ys.foldl apply ([], {})).1, congrArg _ (Prod.ext rfl hl), hm⟩

theorem any_order (env : Env) (show' : Int → Bytes) (hc : IntCodec show') (r : Req) (ys : List Opt) (hp : ys.Perm (optsOf r)) :
    ∃ o, deserializeOptions env (ys.map (render show')) [] {} = .ok (o, r.ltx) ∧
      modesOf o = (r.quiet, r.plain, r.serverless) :=
  any_order_of_readable env show' r (fun x _ => hc.readable x) ys hp

end Dtail.OptionOrder
