/-
The limiter of Model/Limiter.lean as a transition system: every step moves one read from one phase to another, and a token
enters the channel when the read enters `holding` and leaves it when the read leaves `holding`.
-/
import DtailModel.Model.Limiter
import DtailModel.Lemmas.LTS
namespace Dtail

theorem limIsRun : IsRun limStep limRun := ⟨fun _ => rfl, fun _ _ _ => rfl⟩

theorem holding_set (rs : List Phase) (i : Nat) (old new : Phase) (h : rs[i]? = some old) :
    holding (rs.set i new) + (if old = .holding then 1 else 0)
      = holding rs + (if new = .holding then 1 else 0) := by
  simpa [holding] using length_filter_set (· = Phase.holding) new h

theorem limStep_spec {s s' : LimState} {l : LimLabel} (h : limStep s l = some s') :
    s'.cap = s.cap ∧ ∃ i old new, s.reads[i]? = some old ∧ s'.reads = s.reads.set i new ∧
      ((old ≠ .holding ∧ new = .holding ∧ s.tokens < s.cap ∧ s'.tokens = s.tokens + 1) ∨
       (old = .holding ∧ new ≠ .holding ∧ s'.tokens = s.tokens - 1) ∨
       (old ≠ .holding ∧ new ≠ .holding ∧ s'.tokens = s.tokens)) := by
  cases l <;> simp only [limStep, Option.ite_none_right_eq_some, Option.some.injEq] at h <;> obtain ⟨hg, rfl⟩ := h
  case tryAcquire | acquireAfterWait => exact ⟨rfl, _, _, _, hg.1, rfl, .inl ⟨nofun, rfl, hg.2, rfl⟩⟩
  case startWait => exact ⟨rfl, _, _, _, hg.1, rfl, .inr (.inr ⟨nofun, nofun, rfl⟩)⟩
  case cancelAtStart | cancelWhileWaiting => exact ⟨rfl, _, _, _, hg, rfl, .inr (.inr ⟨nofun, nofun, rfl⟩)⟩
  case finish => exact ⟨rfl, _, _, _, hg, rfl, .inr (.inl ⟨rfl, nofun, rfl⟩)⟩

/-- the channel holds exactly one token per read that is between acquire and release, and never more than its capacity,
    which stays what it was -/
def LimInv (cap : Nat) (s : LimState) : Prop := s.cap = cap ∧ s.tokens = holding s.reads ∧ s.tokens ≤ cap

theorem limInit_inv (cap n : Nat) : LimInv cap (limInit cap n) :=
  ⟨rfl, by simp [limInit, holding], Nat.zero_le _⟩

theorem limStep_inv (cap : Nat) (s s' : LimState) (l : LimLabel) (h : LimInv cap s) (hs : limStep s l = some s') :
    LimInv cap s' := by
  obtain ⟨hcap, i, old, new, hi, hreads, hkind⟩ := limStep_spec hs
  obtain ⟨rfl, h1, h2⟩ := h
  have hcount := holding_set s.reads i old new hi
  rw [← hreads, ← h1] at hcount
  refine ⟨hcap, ?_⟩
  rcases hkind with ⟨ho, hn, hlt, ht⟩ | ⟨ho, hn, ht⟩ | ⟨ho, hn, ht⟩
  · rw [if_neg ho, if_pos hn] at hcount
    rw [ht]; exact ⟨hcount.symm, hlt⟩
  · rw [if_pos ho, if_neg hn] at hcount
    rw [ht]; exact ⟨Nat.sub_eq_of_eq_add hcount.symm, Nat.le_trans (Nat.sub_le _ _) h2⟩
  · rw [if_neg ho, if_neg hn] at hcount
    rw [ht]; exact ⟨hcount.symm, h2⟩

end Dtail
