/-
Safety side of the aggregator transition system (C06): the step function as a relation, the invariant `AggInv`,
its preservation by every step, and the eager schedule of the scripted sessions as a run of the system.
-/
import DtailModel.Model.Aggregator
import DtailModel.Lemmas.LTS
namespace Dtail

theorem aggIsRun : IsRun aggStep aggRun := ⟨fun _ => rfl, fun _ _ _ => rfl⟩

/-- `aggStep` as a relation: one rule per label, its guards as premises -/
inductive AggStep (s : Agg) : ALabel → Agg → Prop
  | register {r p c} : s.rds[r]? = some ⟨.notRegistered, p, c⟩ → s.nextQ.length < nextCap →
      AggStep s (.register r) { s with rds := s.rds.set r ⟨.open_, p, c⟩, nextQ := s.nextQ ++ [r] }
  | push {r p c n} : s.rds[r]? = some ⟨.open_, p, c⟩ → s.sizes[r]? = some n → p < n → p - c < chanCap →
      AggStep s (.push r) { s with rds := s.rds.set r ⟨.open_, p + 1, c⟩ }
  | close {r p c} : s.rds[r]? = some ⟨.open_, p, c⟩ → s.sizes[r]? = some p →
      AggStep s (.close r) { s with rds := s.rds.set r ⟨.closed, p, c⟩ }
  | first {r rest} : s.current = none → s.nextQ = r :: rest → s.done = false →
      AggStep s .first { s with current := some r, nextQ := rest }
  | take {r d} : s.current = some r → s.rds[r]? = some d → d.consumed < d.pushed → s.done = false →
      AggStep s .take { s with rds := s.rds.set r { d with consumed := d.consumed + 1 } }
  | closedSwitch {r r' rest d} : s.current = some r → s.nextQ = r' :: rest → s.rds[r]? = some d → d.st = .closed →
      d.consumed = d.pushed → s.done = false →
      AggStep s .closedSwitch { s with current := some r', nextQ := rest }
  | closedDone {r d} : s.current = some r → s.nextQ = [] → s.rds[r]? = some d → d.st = .closed →
      d.consumed = d.pushed → s.done = false → AggStep s .closedDone { s with done := true }
  | rotate {r r' rest d} : s.current = some r → s.nextQ = r' :: rest → s.rds[r]? = some d → d.st = .open_ →
      d.consumed = d.pushed → s.done = false →
      AggStep s .rotate { s with current := some r', nextQ := rest, limbo := s.limbo ++ [r] }
  | requeue {r} : r ∈ s.limbo → s.nextQ.length < nextCap →
      AggStep s (.requeue r) { s with limbo := s.limbo.erase r, nextQ := s.nextQ ++ [r] }

theorem aggStep_iff {s s' : Agg} {l : ALabel} : aggStep s l = some s' ↔ AggStep s l s' := by
  constructor
  · have hnd {b : Bool} (h : (!b) = true) : b = false := Eq.mp (Bool.not_eq_true' b) h
    fun_cases aggStep s l
    -- as in `sessStep_iff`: one goal per rule is left, `hc` its test and `‹_›` the equations of its matches
    all_goals intro h; cases h
    all_goals rename_i hc
    · exact .register ‹_› hc
    · exact .push ‹_› ‹_› hc.1 hc.2
    · exact .close ‹_› ‹_›
    · exact .first ‹_› ‹_› (Bool.eq_false_iff.2 hc)
    · exact .take ‹_› ‹_› hc.1 (hnd hc.2)
    · exact .closedSwitch ‹_› ‹_› ‹_› hc.1 hc.2.1 (hnd hc.2.2)
    · exact .closedDone ‹_› ‹_› ‹_› hc.1 hc.2.1 (hnd hc.2.2)
    · exact .rotate ‹_› ‹_› ‹_› hc.1 hc.2.1 (hnd hc.2.2)
    · exact .requeue hc.1 hc.2
  · intro h
    cases h <;> simp [aggStep, *]

/-- where a registered reader's channel is -/
def Tracked (s : Agg) (r : Nat) (d : Rd) : Prop :=
  s.current = some r ∨ r ∈ s.nextQ ∨ r ∈ s.limbo ∨ (d.st = .closed ∧ d.consumed = d.pushed)

theorem Tracked.cur {s : Agg} {r : Nat} {d : Rd} (h : s.current = some r) : Tracked s r d := .inl h
theorem Tracked.queued {s : Agg} {r : Nat} {d : Rd} (h : r ∈ s.nextQ) : Tracked s r d := .inr (.inl h)
theorem Tracked.limbo {s : Agg} {r : Nat} {d : Rd} (h : r ∈ s.limbo) : Tracked s r d := .inr (.inr (.inl h))
theorem Tracked.drained {s : Agg} {r : Nat} {d : Rd} (hst : d.st = .closed) (hcp : d.consumed = d.pushed) : Tracked s r d :=
  .inr (.inr (.inr ⟨hst, hcp⟩))

/-- What every reachable state of the aggregator satisfies.  `bounds`: a reader has pushed no more than its file holds (all of it
    once closed) and the aggregator has taken no more than was pushed; `tracked`: the channel of every registered reader is
    somewhere the aggregator will look, or is closed and emptied (`Tracked`); `atDone`: the aggregator finishes only on a closed,
    emptied current channel. -/
structure AggInv (s : Agg) : Prop where
  len : s.rds.length = s.sizes.length
  bounds : ∀ (r : Nat) (d : Rd) (n : Nat), s.rds[r]? = some d → s.sizes[r]? = some n →
    d.consumed ≤ d.pushed ∧ d.pushed ≤ n ∧ (d.st = .closed → d.pushed = n)
  tracked : ∀ (r : Nat) (d : Rd), s.rds[r]? = some d → d.st ≠ .notRegistered → Tracked s r d
  atDone : s.done = true → ∃ r d, s.current = some r ∧ s.rds[r]? = some d ∧ d.st = .closed ∧ d.consumed = d.pushed

theorem aggInit_inv (sizes : List Nat) : AggInv (aggInit sizes) := by
  refine ⟨by simp [aggInit], fun r d n hd _ => ?_, fun r d hd hne => ?_, fun h => nomatch h⟩
  · rw [eq_of_getElem?_replicate hd]; simp
  · rw [eq_of_getElem?_replicate hd] at hne; exact absurd rfl hne

/-- `hlive` (the reader's channel is still in use) is what carries `tracked` and `atDone` over: neither can rest on
    the old record being closed and drained. -/
theorem AggInv.set_rd {s : Agg} (h : AggInv s) {r : Nat} {d : Rd} (v : Rd) (hd : s.rds[r]? = some d)
    (hlive : d.st = .closed → d.consumed ≠ d.pushed)
    (hb : ∀ n, s.sizes[r]? = some n → v.consumed ≤ v.pushed ∧ v.pushed ≤ n ∧ (v.st = .closed → v.pushed = n))
    (ht : d.st = .notRegistered → Tracked s r v) : AggInv { s with rds := s.rds.set r v } := by
  have hget (r' : Nat) : (s.rds.set r v)[r']? = if r = r' then some v else s.rds[r']? := by
    rw [List.getElem?_set, if_pos (lt_length_of_getElem? hd)]
  refine ⟨by simp [h.len], fun r' d' n hd' hn => ?_, fun r' d' hd' hne => ?_, fun hdone => ?_⟩
  · rw [hget] at hd'; split at hd'
    · subst r'; cases hd'; exact hb n hn
    · exact h.bounds r' d' n hd' hn
  · rw [hget] at hd'; split at hd'
    · subst r'; cases hd'
      by_cases hreg : d.st = .notRegistered
      · exact ht hreg
      · exact (h.tracked r d hd hreg).imp id (.imp id (.imp id fun h1 => absurd h1.2 (hlive h1.1)))
    · exact h.tracked r' d' hd' hne
  · obtain ⟨r0, d0, hc0, hd0, hst0, hcp0⟩ := h.atDone hdone
    refine ⟨r0, d0, hc0, ?_, hst0, hcp0⟩
    rw [hget]; split
    · subst r0; rw [hd] at hd0; cases hd0; exact absurd hcp0 (hlive hst0)
    · exact hd0

theorem aggStep_inv (s s' : Agg) (l : ALabel) (h : AggInv s) (hs : aggStep s l = some s') : AggInv s' := by
  cases aggStep_iff.1 hs with
  | @register r p c hr hcap =>
    have h1 : AggInv { s with nextQ := s.nextQ ++ [r] } :=
      ⟨h.len, h.bounds, fun r' d hd hne => (h.tracked r' d hd hne).imp id (.imp (List.mem_append_left _) id), h.atDone⟩
    exact h1.set_rd _ hr (hlive := nofun) (ht := fun _ => .queued (List.mem_append_right _ (List.mem_singleton_self r)))
      (hb := fun n hn => (h.bounds r _ n hr hn).imp id (.imp id fun _ => nofun))
  | @push r p c n hr hn hp hc =>
    refine h.set_rd _ hr (hlive := nofun) (ht := nofun) (hb := fun n' hn' => ?_)
    have := h.bounds r _ n hr hn
    rw [hn] at hn'; cases hn'
    exact ⟨by simp only at this ⊢; omega, by simp only; omega, nofun⟩
  | @close r p c hr hn =>
    refine h.set_rd _ hr (hlive := nofun) (ht := nofun) (hb := fun n' hn' => ?_)
    rw [hn] at hn'; cases hn'
    exact ⟨(h.bounds r _ p hr hn).1, Nat.le_refl _, fun _ => rfl⟩
  | @take r d hcur hr hlt hnd =>
    refine h.set_rd _ hr (hlive := fun _ => Nat.ne_of_lt hlt) (ht := fun _ => .cur hcur) (hb := fun n hn => ?_)
    have := h.bounds r d n hr hn
    exact ⟨by simp only; omega, this.2.1, this.2.2⟩
  -- the other steps leave the readers alone: a channel goes from one of the places of `Tracked` to another
  | @first r rest hcur hq hnd =>
    refine ⟨h.len, h.bounds, fun x dx hd hne => ?_, fun hdone => nomatch hnd.symm.trans hdone⟩
    rcases h.tracked x dx hd hne with h1 | h1 | h1 | h1
    · exact nomatch hcur.symm.trans h1
    · exact (List.mem_cons.1 (hq ▸ h1)).elim (fun e => .cur (congrArg some e.symm)) .queued
    · exact .limbo h1
    · exact .drained h1.1 h1.2
  | @closedSwitch r r' rest d hcur hq hr hst hcp hnd =>
    refine ⟨h.len, h.bounds, fun x dx hd hne => ?_, fun hdone => nomatch hnd.symm.trans hdone⟩
    rcases h.tracked x dx hd hne with h1 | h1 | h1 | h1
    · -- the channel that is dropped is closed and drained
      cases hcur.symm.trans h1
      cases hr.symm.trans hd
      exact .drained hst hcp
    · exact (List.mem_cons.1 (hq ▸ h1)).elim (fun e => .cur (congrArg some e.symm)) .queued
    · exact .limbo h1
    · exact .drained h1.1 h1.2
  | @closedDone r d hcur hq hr hst hcp hnd =>
    exact ⟨h.len, h.bounds, h.tracked, fun _ => ⟨r, d, hcur, hr, hst, hcp⟩⟩
  | @rotate r r' rest d hcur hq hr hst hcp hnd =>
    refine ⟨h.len, h.bounds, fun x dx hd hne => ?_, fun hdone => nomatch hnd.symm.trans hdone⟩
    rcases h.tracked x dx hd hne with h1 | h1 | h1 | h1
    · cases hcur.symm.trans h1
      exact .limbo (List.mem_append_right _ (List.mem_singleton_self r))
    · exact (List.mem_cons.1 (hq ▸ h1)).elim (fun e => .cur (congrArg some e.symm)) .queued
    · exact .limbo (List.mem_append_left _ h1)
    · exact .drained h1.1 h1.2
  | @requeue r hm hcap =>
    refine ⟨h.len, h.bounds, fun x dx hd hne => ?_, h.atDone⟩
    rcases h.tracked x dx hd hne with h1 | h1 | h1 | h1
    · exact .cur h1
    · exact .queued (List.mem_append_left _ h1)
    · by_cases e : x = r
      · exact .queued (List.mem_append_right _ (e ▸ List.mem_singleton_self x))
      · exact .limbo ((List.mem_erase_of_ne e).2 h1)
    · exact .drained h1.1 h1.2

theorem aggStep_sizes (s s' : Agg) (l : ALabel) (hs : aggStep s l = some s') : s'.sizes = s.sizes := by
  cases aggStep_iff.1 hs <;> rfl

theorem aggSettle_run (fuel : Nat) (s0 s : Agg) (acc : List ALabel)
    (h : aggRun s0 acc.reverse = some s) :
    aggRun s0 (aggSettle fuel s acc).2 = some (aggSettle fuel s acc).1 := by
  fun_induction aggSettle fuel s acc with
  | case1 | case2 | case3 => exact h
  | case4 fuel s acc l _ s' hs ih =>
    -- a step is taken: the history grows by its label
    apply ih
    rw [List.reverse_cons, aggIsRun.append, h]
    show (aggStep s l).bind (fun s' => aggRun s' []) = some s'
    rw [hs]; rfl

end Dtail
