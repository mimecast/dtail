/-
The no-panic calculus (C10, C11).  Go's indexing and slicing are explicit in the models (`goIndex`, `goSlice`,
`goSliceFrom` return `Outcome.panic` where the runtime would); a function never panics when each of them is reached only
under a length test that covers it.  `o.Sat P`: `o` is no panic and a value it returns satisfies `P`; the `sat_*` rules peel
one such operation, or a call with a known specification, off the front of a `do` block and leave the bound to `omega`.
-/
import DtailModel.Model.GoStr
namespace Dtail

def Outcome.Sat {α : Type} (o : Outcome α) (P : α → Prop) : Prop :=
  match o with
  | .ok a => P a
  | .err _ => True
  | .panic _ => False

abbrev Outcome.NoPanic {α : Type} (o : Outcome α) : Prop := o.Sat fun _ => True

theorem Outcome.NoPanic.isPanic {α : Type} {o : Outcome α} (h : o.NoPanic) : o.isPanic = false := by
  cases o with
  | ok _ | err _ => rfl
  | panic _ => cases h

theorem sat_bind {α β : Type} {o : Outcome α} {f : α → Outcome β} {P : α → Prop} {Q : β → Prop} (ho : o.Sat P)
    (hf : ∀ a, P a → (f a).Sat Q) : (o.bind f).Sat Q := by
  cases o with
  | ok a => exact hf a ho
  | err e => trivial
  | panic p => cases ho

theorem Outcome.ok_bind {α β : Type} (a : α) (f : α → Outcome β) : (Outcome.ok a).bind f = f a := rfl

theorem Outcome.bind_assoc {α β γ : Type} (o : Outcome α) (f : α → Outcome β) (g : β → Outcome γ) :
    (o.bind f).bind g = o.bind fun a => (f a).bind g := by
  cases o <;> rfl

theorem goIndex_of_lt {α : Type} (l : List α) (k : Nat) (h : k < l.length) : goIndex l k = .ok l[k] := by
  simp [goIndex, List.getElem?_eq_getElem h]

theorem goIndex_getD {α : Type} (l : List α) (k : Nat) (d : α) (h : k < l.length) : goIndex l k = .ok (l.getD k d) := by
  rw [goIndex_of_lt l k h, List.getD_eq_getElem?_getD, List.getElem?_eq_getElem h]; rfl

theorem goSliceFrom_of_le {α : Type} (l : List α) (lo : Nat) (h : lo ≤ l.length) : goSliceFrom l lo = .ok (l.drop lo) :=
  if_pos h

theorem goSlice_of_le {α : Type} (l : List α) (lo hi : Nat) (h1 : lo ≤ hi) (h2 : hi ≤ l.length) :
    goSlice l lo hi = .ok ((l.take hi).drop lo) := by
  rw [goSlice, if_neg (by omega), if_neg (by omega)]

variable {α β : Type} {l : List α} {Q : β → Prop}

theorem sat_index {k : Nat} {f : α → Outcome β} (h : k < l.length) (hf : ∀ a, (f a).Sat Q) :
    ((goIndex l k).bind f).Sat Q := by
  rw [goIndex_of_lt l k h]; exact hf _

theorem sat_sliceFrom {lo : Nat} {f : List α → Outcome β} (h : lo ≤ l.length) (hf : ∀ r, (f r).Sat Q) :
    ((goSliceFrom l lo).bind f).Sat Q := by
  rw [goSliceFrom_of_le l lo h]; exact hf _

theorem sat_slice {lo hi : Nat} {f : List α → Outcome β} (h1 : lo ≤ hi) (h2 : hi ≤ l.length)
    (hf : ∀ r, (f r).Sat Q) : ((goSlice l lo hi).bind f).Sat Q := by
  rw [goSlice_of_le l lo hi h1 h2]; exact hf _

theorem sat_ite {c : Prop} [Decidable c] {a b : Outcome β} (ha : c → a.Sat Q) (hb : ¬ c → b.Sat Q) :
    (if c then a else b).Sat Q := by
  by_cases h : c
  · rw [if_pos h]; exact ha h
  · rw [if_neg h]; exact hb h

end Dtail
